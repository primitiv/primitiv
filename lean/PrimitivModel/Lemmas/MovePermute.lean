import PrimitivModel.Lemmas.MovePlans
import PrimitivModel.Lemmas.MoveKernels
import Mathlib.Algebra.BigOperators.Ring.Finset
import Mathlib.Data.List.Nodup
import Mathlib.Data.Finset.Card
import PrimitivModel.Spec.KernelsMove
/-
permute_dims.  A flat index is a number in the mixed radix of the extents:
`digit` takes it apart, `enc` puts it together.  The inner loop `permJ` of the
kernel, run over its stride table, takes the digits of `i` in the radix of `x`
and puts them together, in the order `perm`, in the radix of `y` (`reenc`,
`permuteFw_plan`).  For an accepted `perm` (`IsPerm`: `shape_ops::permute_dims` admits
exactly the permutations of `0 .. n-1`) `reenc` is a bijection of the volume, so
the loop nest writes every output element once; and `Spec.Move.flat` is `enc`,
which ties `reenc` to the specification's multi-indices.
-/
namespace Primitiv.Move
open Primitiv Primitiv.MoveShape

/-- first axis fastest -/
def enc (f e : Nat → Nat) (n : Nat) : Nat := ∑ k ∈ Finset.range n, e k * pi f k

def digit (f : Nat → Nat) (i k : Nat) : Nat := i / pi f k % f k

theorem enc_succ (f e : Nat → Nat) (n : Nat) : enc f e (n + 1) = enc f e n + e n * pi f n := by
  unfold enc; rw [Finset.sum_range_succ]

theorem enc_lt {f e : Nat → Nat} {n : Nat} (h : ∀ k, k < n → e k < f k) : enc f e n < pi f n := by
  induction n with
  | zero => simp [enc, pi]
  | succ n ih =>
    rw [enc_succ, pi, Nat.mul_comm (e n)]
    exact View3.lt_mul_of_lt (ih (fun k hk => h k (by omega))) (h n (by omega))

theorem enc_congr {f e e' : Nat → Nat} {n : Nat} (h : ∀ k, k < n → e k = e' k) : enc f e n = enc f e' n := by
  unfold enc
  exact Finset.sum_congr rfl (fun k hk => by rw [h k (Finset.mem_range.mp hk)])

theorem digit_lt {f : Nat → Nat} (i k : Nat) (h : 0 < f k) : digit f i k < f k := Nat.mod_lt _ h

theorem pi_dvd {f : Nat → Nat} {k n : Nat} (hk : k < n) : pi f k * f k ∣ pi f n :=
  ⟨_, pi_split f hk⟩

theorem digit_mod {f : Nat → Nat} {k n : Nat} (i : Nat) (hk : k < n) : digit f (i % pi f n) k = digit f i k := by
  unfold digit
  rw [← Nat.mod_mul_right_div_self i, ← Nat.mod_mul_right_div_self (i % pi f n), Nat.mod_mod_of_dvd _ (pi_dvd hk)]

theorem digit_enc {f e : Nat → Nat} {n k : Nat} (h : ∀ j, j < n → e j < f j) (hk : k < n) :
    digit f (enc f e n) k = e k := by
  induction n with
  | zero => omega
  | succ n ih =>
    have hlt := enc_lt (f := f) (e := e) (n := n) (fun j hj => h j (by omega))
    rw [enc_succ, Nat.add_comm, Nat.mul_comm]
    rcases Nat.lt_succ_iff_lt_or_eq.mp hk with hkn | rfl
    · -- lower digit: the top term is a multiple of `pi f n`
      rw [← digit_mod _ hkn, Nat.mul_add_mod, Nat.mod_eq_of_lt hlt]
      exact ih (fun j hj => h j (by omega)) hkn
    · unfold digit
      rw [Nat.add_comm, View3.add_mul_div _ hlt]
      exact Nat.mod_eq_of_lt (h k (by omega))

theorem enc_digit {f : Nat → Nat} {n i : Nat} (hi : i < pi f n) : enc f (digit f i) n = i := by
  induction n generalizing i with
  | zero => simp [pi] at hi; simp [enc, hi]
  | succ n ih =>
    have hP := (View3.pos_of_lt_mul hi).1
    rw [enc_succ, enc_congr (fun k hk => (digit_mod i hk).symm), ih (Nat.mod_lt _ hP)]
    unfold digit
    rw [Nat.mod_eq_of_lt (Nat.div_lt_of_lt_mul hi), Nat.mul_comm]
    exact Nat.mod_add_div i (pi f n)

/-- the stride table, for the axes `k-1, …, 0` (the loop runs over the axes downwards) -/
def descList (g : Nat → Nat × Nat) : Nat → List (Nat × Nat)
  | 0 => []
  | k + 1 => g k :: descList g k

theorem map_range_desc (g : Nat → Nat × Nat) (n : Nat) :
    (List.range n).map (fun d => g (n - 1 - d)) = descList g n := by
  induction n with
  | zero => rfl
  | succ n ih =>
    rw [List.range_succ_eq_map, List.map_cons, List.map_map, descList]
    congr 1
    rw [← ih]
    apply List.map_congr_left
    intro d _
    simp only [Function.comp]
    congr 1; omega

theorem descList_congr {g g' : Nat → Nat × Nat} {k : Nat} (h : ∀ a, a < k → g a = g' a) : descList g k = descList g' k := by
  induction k with
  | zero => rfl
  | succ k ih => simp only [descList]; rw [h k (by omega), ih (fun a ha => h a (by omega))]

theorem permJ_acc (L : List (Nat × Nat)) (tmp j : Nat) : permJ L tmp j = j + permJ L tmp 0 := by
  induction L generalizing tmp j with
  | nil => simp [permJ]
  | cons hd tl ih =>
    obtain ⟨xs, ys⟩ := hd
    simp only [permJ]
    rw [ih (tmp - tmp / xs * xs) (j + tmp / xs * ys), ih (tmp - tmp / xs * xs) (0 + tmp / xs * ys)]
    omega

theorem permJ_desc (f w : Nat → Nat) (k i : Nat) (hi : i < pi f k) :
    permJ (descList (fun a => (pi f a, w a)) k) i 0 = ∑ a ∈ Finset.range k, digit f i a * w a := by
  induction k generalizing i with
  | zero => simp [descList, permJ]
  | succ k ih =>
    have hP := (View3.pos_of_lt_mul hi).1
    simp only [descList, permJ]
    rw [permJ_acc, Finset.sum_range_succ]
    have hm : i - i / pi f k * pi f k = i % pi f k := by
      have := Nat.div_add_mod i (pi f k)
      rw [Nat.mul_comm] at this; omega
    rw [hm, ih _ (Nat.mod_lt _ hP)]
    have htop : digit f i k = i / pi f k := by
      unfold digit; exact Nat.mod_eq_of_lt (Nat.div_lt_of_lt_mul hi)
    rw [htop, Nat.zero_add, Nat.add_comm]
    congr 1
    apply Finset.sum_congr rfl
    intro a ha
    rw [digit_mod i (Finset.mem_range.mp ha)]

structure IsPerm (perm : List Nat) : Prop where
  nodup : perm.Nodup
  lt : ∀ p ∈ perm, p < perm.length

/-- pigeonhole: `n` distinct entries below `n` are all the numbers below `n` -/
theorem IsPerm.mem {perm : List Nat} (h : IsPerm perm) {a : Nat} (ha : a < perm.length) : a ∈ perm := by
  have hsub : perm.toFinset ⊆ Finset.range perm.length := by
    intro p hp
    exact Finset.mem_range.mpr (h.lt p (List.mem_toFinset.mp hp))
  have hcard : (Finset.range perm.length).card ≤ perm.toFinset.card := by
    rw [List.toFinset_card_of_nodup h.nodup, Finset.card_range]
  have := Finset.eq_of_subset_of_card_le hsub hcard
  have hmem : a ∈ perm.toFinset := by rw [this]; exact Finset.mem_range.mpr ha
  exact List.mem_toFinset.mp hmem

theorem IsPerm.idxOf_lt {perm : List Nat} (h : IsPerm perm) {a : Nat} (ha : a < perm.length) :
    perm.idxOf a < perm.length := List.idxOf_lt_length_iff.mpr (h.mem ha)

theorem IsPerm.get_idxOf {perm : List Nat} (h : IsPerm perm) {a : Nat} (ha : a < perm.length) :
    perm.getD (perm.idxOf a) 0 = a := by
  have hl := h.idxOf_lt ha
  rw [← List.getElem_eq_getD (h := hl) 0]
  exact List.getElem_idxOf hl

theorem IsPerm.idxOf_get {perm : List Nat} (h : IsPerm perm) {k : Nat} (hk : k < perm.length) :
    perm.idxOf (perm.getD k 0) = k := by
  rw [← List.getElem_eq_getD (h := hk) 0]
  exact h.nodup.idxOf_getElem k hk

theorem IsPerm.get_lt {perm : List Nat} (h : IsPerm perm) {k : Nat} (hk : k < perm.length) :
    perm.getD k 0 < perm.length := by
  rw [← List.getElem_eq_getD (h := hk) 0]
  exact h.lt _ (List.getElem_mem hk)

theorem IsPerm.sum_reindex {perm : List Nat} (h : IsPerm perm) (F : Nat → Nat → Nat) :
    ∑ a ∈ Finset.range perm.length, F a (perm.idxOf a) = ∑ k ∈ Finset.range perm.length, F (perm.getD k 0) k := by
  apply Finset.sum_nbij' (fun a => perm.idxOf a) (fun k => perm.getD k 0)
  · intro a ha; exact Finset.mem_range.mpr (h.idxOf_lt (Finset.mem_range.mp ha))
  · intro k hk; exact Finset.mem_range.mpr (h.get_lt (Finset.mem_range.mp hk))
  · intro a ha; exact h.get_idxOf (Finset.mem_range.mp ha)
  · intro k hk; exact h.idxOf_get (Finset.mem_range.mp hk)
  · intro a ha; rw [h.get_idxOf (Finset.mem_range.mp ha)]

theorem pi_eq_prod (f : Nat → Nat) (n : Nat) : pi f n = ∏ k ∈ Finset.range n, f k := by
  induction n with
  | zero => simp [pi]
  | succ n ih => rw [pi, ih, Finset.prod_range_succ]

theorem IsPerm.pi_reindex {perm : List Nat} (h : IsPerm perm) (X : Nat → Nat) :
    pi (fun k => X (perm.getD k 0)) perm.length = pi X perm.length := by
  rw [pi_eq_prod, pi_eq_prod]
  apply Finset.prod_nbij' (fun k => perm.getD k 0) (fun a => perm.idxOf a)
  · intro k hk; exact Finset.mem_range.mpr (h.get_lt (Finset.mem_range.mp hk))
  · intro a ha; exact Finset.mem_range.mpr (h.idxOf_lt (Finset.mem_range.mp ha))
  · intro k hk; exact h.idxOf_get (Finset.mem_range.mp hk)
  · intro a ha; exact h.get_idxOf (Finset.mem_range.mp ha)
  · intro k _; rfl

theorem permuteLoop_ok {x : Shape} {n : Nat} {l picked dims : List Nat}
    (h : ShapeOps.permuteLoop x n l picked = .ok dims) :
    dims = l.map x.get ∧ (∀ p ∈ l, p < n ∧ p ∉ picked) ∧ l.Nodup := by
  induction l generalizing picked dims with
  | nil =>
    obtain rfl := Except.ok.inj h
    exact ⟨rfl, fun p hp => (by cases hp), List.nodup_nil⟩
  | cons p ps ih =>
    have ⟨hpn, h⟩ := ite_ok h
    have ⟨hpc, h⟩ := ite_ok h
    obtain ⟨rest, hr, h⟩ := bind_ok.mp h
    obtain rfl := Except.ok.inj h
    obtain ⟨rfl, hall, hnd⟩ := ih hr
    refine ⟨rfl, fun q hq => ?_, List.nodup_cons.mpr ⟨fun hm => (hall p hm).2 List.mem_cons_self, hnd⟩⟩
    rcases List.mem_cons.mp hq with rfl | hq'
    · exact ⟨by omega, fun hm => hpc (by simpa using hm)⟩
    · exact ⟨(hall q hq').1, fun hm => (hall q hq').2 (List.mem_cons_of_mem _ hm)⟩

theorem permuteDims_ok {x y : Shape} {perm : List Nat} (h : ShapeOps.permuteDims x perm = .ok y) :
    IsPerm perm ∧ x.dims.length ≤ perm.length ∧ perm.length ≤ 8 ∧ WF y ∧ y.batch = x.batch ∧
    (∀ k, k < perm.length → y.get k = x.get (perm.getD k 0)) ∧ (∀ k, perm.length ≤ k → y.get k = 1) := by
  have ⟨hlen, h⟩ := ite_ok h
  obtain ⟨dims, hl, h⟩ := bind_ok.mp h
  obtain ⟨rfl, hall, hnd⟩ := permuteLoop_ok hl
  obtain ⟨hy, hb, hg, hl8, _⟩ := new_ok h
  simp only [List.length_map] at hl8
  refine ⟨⟨hnd, fun p hp => (hall p hp).1⟩, by unfold Shape.depth at hlen; omega, hl8, hy, hb, ?_, ?_⟩
  · intro k hk
    rw [hg, ← List.getElem_eq_getD (h := hk) 0]
    simp [List.getD, List.getElem?_map, List.getElem?_eq_getElem hk]
  · intro k hk
    rw [hg]
    simp [List.getD, List.getElem?_eq_none (show (perm.map x.get).length ≤ k by simpa using hk)]

def reenc (X : Nat → Nat) (perm : List Nat) (i : Nat) : Nat :=
  enc (fun k => X (perm.getD k 0)) (fun k => digit X i (perm.getD k 0)) perm.length

theorem permuteFw_plan {x ys : Shape} {perm : List Nat} {m : Moves} (hx : WF x)
    (h : Front.permuteFw x perm = .ok (ys, m)) :
    IsPerm perm ∧ x.dims.length ≤ perm.length ∧ perm.length ≤ 8 ∧ WF ys ∧ ys.batch = x.batch ∧ ys.volume = x.volume ∧
    (∀ k, k < perm.length → ys.get k = x.get (perm.getD k 0)) ∧
    x.volume = pi x.get perm.length ∧
    ∃ st, m = permuteFwMoves x.volume x.batch st ∧
      ∀ i, i < x.volume → permJ st i 0 = reenc x.get perm i := by
  obtain ⟨y, hS, h⟩ := bind_ok.mp h
  obtain ⟨rfl, rfl⟩ := Prod.mk.inj (Except.ok.inj h)
  obtain ⟨hp, hdep, h8, hy, hb, hgk, hg1⟩ := permuteDims_ok hS
  have hxv : x.volume = pi x.get perm.length := volume_eq_pi hx (fun k hk => get_of_ge (by omega)) h8
  have hyv : y.volume = pi y.get perm.length := volume_eq_pi hy hg1 h8
  have hyx : y.volume = x.volume := by
    rw [hyv, hxv, ← hp.pi_reindex x.get]
    exact pi_congr (fun k hk => hgk k hk)
  refine ⟨hp, hdep, h8, hy, hb, hyx, hgk, hxv, _, rfl, fun i hi => ?_⟩
  -- the stride table is the descending list of (x-stride, y-stride of the target axis)
  have hst : permStrides x y perm =
      descList (fun a => (pi x.get a, pi (fun k => x.get (perm.getD k 0)) (perm.idxOf a))) perm.length := by
    unfold permStrides
    simp only
    rw [map_range_desc (fun a => (x.lowerVolume a, y.lowerVolume (perm.idxOf a)))]
    apply descList_congr
    intro a ha
    rw [hx.lowerVolume_eq, hy.lowerVolume_eq]
    congr 1
    exact pi_congr (fun k hk => hgk k (by have := hp.idxOf_lt ha; omega))
  rw [hst, permJ_desc x.get _ _ _ (by rw [← hxv]; exact hi),
    hp.sum_reindex (fun a k => digit x.get i a * pi (fun k => x.get (perm.getD k 0)) k)]
  rfl

theorem reenc_lt {X : Nat → Nat} {perm : List Nat} (hp : IsPerm perm) (hX : ∀ a, 0 < X a) (i : Nat) :
    reenc X perm i < pi X perm.length := by
  rw [← hp.pi_reindex X]
  exact enc_lt (fun k _ => digit_lt _ _ (hX _))

theorem reenc_inj {X : Nat → Nat} {perm : List Nat} (hp : IsPerm perm) (hX : ∀ a, 0 < X a) {i i' : Nat}
    (hi : i < pi X perm.length) (hi' : i' < pi X perm.length) (h : reenc X perm i = reenc X perm i') : i = i' := by
  have hd : ∀ k, k < perm.length → digit X i (perm.getD k 0) = digit X i' (perm.getD k 0) := by
    intro k hk
    have e1 := digit_enc (f := fun k => X (perm.getD k 0)) (e := fun k => digit X i (perm.getD k 0)) (n := perm.length)
      (fun j _ => digit_lt _ _ (hX _)) hk
    have e2 := digit_enc (f := fun k => X (perm.getD k 0)) (e := fun k => digit X i' (perm.getD k 0)) (n := perm.length)
      (fun j _ => digit_lt _ _ (hX _)) hk
    unfold reenc at h
    rw [h] at e1
    rw [← e1, e2]
  rw [← enc_digit hi, ← enc_digit hi']
  apply enc_congr
  intro a ha
  have := hd (perm.idxOf a) (hp.idxOf_lt ha)
  rwa [hp.get_idxOf ha] at this

theorem reenc_enc {X e : Nat → Nat} {perm : List Nat} (hp : IsPerm perm) (he : ∀ a, a < perm.length → e a < X a) :
    reenc X perm (enc X e perm.length) = enc (fun k => X (perm.getD k 0)) (fun k => e (perm.getD k 0)) perm.length :=
  enc_congr fun _ hk => digit_enc he (hp.get_lt hk)

theorem reenc_surj {X : Nat → Nat} {perm : List Nat} (hp : IsPerm perm) (hX : ∀ a, 0 < X a) {o : Nat}
    (ho : o < pi X perm.length) : ∃ i, i < pi X perm.length ∧ reenc X perm i = o := by
  have ho' : o < pi (fun k => X (perm.getD k 0)) perm.length := by rw [hp.pi_reindex X]; exact ho
  let d : Nat → Nat := fun a => digit (fun k => X (perm.getD k 0)) o (perm.idxOf a)
  have hd : ∀ a, a < perm.length → d a < X a := by
    intro a ha
    have := digit_lt (f := fun k => X (perm.getD k 0)) o (perm.idxOf a) (hX _)
    rw [hp.get_idxOf ha] at this; exact this
  refine ⟨enc X d perm.length, enc_lt hd, ?_⟩
  rw [reenc_enc hp hd]
  conv => rhs; rw [← enc_digit ho']
  exact enc_congr fun k hk => by show digit _ o (perm.idxOf (perm.getD k 0)) = _; rw [hp.idxOf_get hk]

theorem permuteFw_didx {V B : Nat} (st : List (Nat × Nat)) {i : Nat} (b : Nat) (hi : i < V) :
    (permuteFwMoves V B st).didx (i + V * b) = permJ st i 0 + V * b := by
  simp only [permuteFwMoves]
  rw [View3.add_mul_div _ hi, View3.add_mul_mod _ hi, Nat.mul_comm, Nat.add_comm]

theorem permuteMoves_facts {V B : Nat} {st : List (Nat × Nat)} (hV : 0 < V)
    (hlt : ∀ i, i < V → permJ st i 0 < V)
    (hinj : ∀ i i', i < V → i' < V → permJ st i 0 = permJ st i' 0 → i = i')
    (hsurj : ∀ o, o < V → ∃ i, i < V ∧ permJ st i 0 = o) :
    (permuteFwMoves V B st).InBounds (V * B) (V * B) ∧ (permuteFwMoves V B st).WritesAll (V * B) ∧
    (permuteFwMoves V B st).WritesOnce := by
  have hform : ∀ t, t < B * V → (permuteFwMoves V B st).didx t = permJ st (t % V) 0 + V * (t / V) ∧
      permJ st (t % V) 0 < V ∧ t / V < B := by
    intro t ht
    have ⟨h1, h2⟩ := View3.seq2_bounds ht
    exact ⟨by conv => lhs; rw [← Nat.mod_add_div t V, permuteFw_didx st _ h1], hlt _ h1, h2⟩
  refine ⟨fun t ht => ?_, fun o ho => ?_, fun t t' ht ht' e => ?_⟩
  · have ⟨e, h1, h2⟩ := hform t ht
    exact ⟨by rw [Nat.mul_comm]; exact ht, by rw [e]; exact View3.lt_mul_of_lt h1 h2⟩
  · obtain ⟨i, hi, e⟩ := hsurj (o % V) (Nat.mod_lt _ hV)
    have ht : i + V * (o / V) < B * V := by
      rw [Nat.mul_comm B]; exact View3.lt_mul_of_lt hi (Nat.div_lt_of_lt_mul ho)
    refine ⟨_, ht, ?_⟩
    rw [(hform _ ht).1, View3.add_mul_mod _ hi, e, View3.add_mul_div _ hi]
    exact Nat.mod_add_div o V
  · have ⟨e1, h1, _⟩ := hform t ht
    have ⟨e2, h2, _⟩ := hform t' ht'
    rw [e1, e2] at e
    have hq : t / V = t' / V := by rw [← View3.add_mul_div (t / V) h1, e, View3.add_mul_div _ h2]
    have hr : t % V = t' % V := hinj _ _ (Nat.mod_lt _ hV) (Nat.mod_lt _ hV) (by rw [hq] at e; omega)
    rw [← Nat.mod_add_div t V, ← Nat.mod_add_div t' V, hq, hr]

theorem permuteFw_facts {x ys : Shape} {perm : List Nat} {m : Moves} (hx : WF x)
    (h : Front.permuteFw x perm = .ok (ys, m)) :
    x.size = x.volume * x.batch ∧ ys.size = x.volume * x.batch ∧
    m.InBounds (x.volume * x.batch) (x.volume * x.batch) ∧ m.WritesAll (x.volume * x.batch) ∧ m.WritesOnce := by
  obtain ⟨hp, _, _, hy, hb, hv, _, hxv, st, rfl, hJ⟩ := permuteFw_plan hx h
  have hX : ∀ a, 0 < x.get a := hx.pos
  refine ⟨hx.size_eq, by rw [hy.size_eq, hv, hb], ?_⟩
  apply permuteMoves_facts hx.vol_pos
  · intro i hi
    rw [hJ i hi, hxv]
    exact reenc_lt hp hX i
  · intro i i' hi hi' e
    rw [hJ i hi, hJ i' hi'] at e
    rw [hxv] at hi hi'
    exact reenc_inj hp hX hi hi' e
  · intro o ho
    rw [hxv] at ho
    obtain ⟨i, hi, e⟩ := reenc_surj hp hX ho
    rw [← hxv] at hi
    exact ⟨i, hi, by rw [hJ i hi]; exact e⟩

theorem permuteBw_plan {x y gy gx : Shape} {perm : List Nat} {mb : Moves} (hx : WF x) (hy : WF y) (hgy : WF gy)
    (hgx : WF gx) (h : Front.permuteBw x y gy gx perm = .ok mb) :
    ∃ m, Front.permuteFw x perm = .ok (y, m) ∧ mb = m.swap ∧ gx = x ∧ gy = y := by
  obtain ⟨sy, hS, h⟩ := bind_ok.mp h
  have ⟨hc, h⟩ := ite_ok h
  obtain rfl := Except.ok.inj h
  simp only [Bool.or_eq_true, not_or] at hc
  have hsy : WF sy := (permuteDims_ok hS).2.2.2.1
  obtain rfl : y = sy := shape_eq_of_eq hy hsy (eq_true_of_not_bnot hc.1.1)
  obtain rfl : gy = y := shape_eq_of_eq hgy hsy (eq_true_of_not_bnot hc.1.2)
  obtain rfl : gx = x := shape_eq_of_eq hgx hx (eq_true_of_not_bnot hc.2)
  refine ⟨_, ?_, rfl, rfl, rfl⟩
  unfold Front.permuteFw; rw [hS]; rfl

open Primitiv.Spec.Move in
theorem flat_eq_enc (dims idx : List Nat) (h : dims.length = idx.length) :
    flat dims idx = enc (fun k => dims.getD k 1) (fun k => idx.getD k 0) dims.length := by
  induction dims generalizing idx with
  | nil => cases idx with
    | nil => simp [flat, enc]
    | cons i is => simp at h
  | cons d ds ih =>
    cases idx with
    | nil => simp at h
    | cons i is =>
      simp only [List.length_cons, Nat.add_right_cancel_iff] at h
      simp only [flat, List.length_cons]
      rw [ih is h]
      unfold enc
      rw [Finset.sum_range_succ', Finset.mul_sum]
      have e0 : (i :: is).getD 0 0 * pi (fun k => (d :: ds).getD k 1) 0 = i := by simp [pi]
      rw [e0, Nat.add_comm]
      congr 1
      apply Finset.sum_congr rfl
      intro k _
      rw [pi_cons]
      have e1 : (i :: is).getD (k + 1) 0 = is.getD k 0 := by simp
      show d * (is.getD k 0 * pi (fun k => ds.getD k 1) k) = (i :: is).getD (k + 1) 0 * (d * pi (fun i => ds.getD i 1) k)
      rw [e1]; ring

theorem getD_map {l : List Nat} (f : Nat → Nat) {k : Nat} (hk : k < l.length) (d d' : Nat) :
    (l.map f).getD k d = f (l.getD k d') := by
  simp [List.getD, List.getElem?_eq_getElem hk]

open Primitiv.Spec.Move in
theorem flat_eq_enc_of {dims idx : List Nat} {n : Nat} {f e : Nat → Nat} (hd : dims.length = n) (hi : idx.length = n)
    (hf : ∀ k, k < n → dims.getD k 1 = f k) (he : ∀ k, k < n → idx.getD k 0 = e k) : flat dims idx = enc f e n := by
  rw [flat_eq_enc _ _ (hd.trans hi.symm), hd]
  exact Finset.sum_congr rfl fun k hk => by
    have hk := Finset.mem_range.mp hk
    show idx.getD k 0 * _ = _
    rw [he k hk, pi_congr fun j hj => hf j (by omega)]

open Primitiv.Spec.Move in
theorem valid_iff (dims idx : List Nat) :
    Valid dims idx ↔ dims.length = idx.length ∧ ∀ k, k < dims.length → idx.getD k 0 < dims.getD k 1 := by
  induction dims generalizing idx with
  | nil => cases idx with
    | nil => simp [Valid]
    | cons i is => simp [Valid]
  | cons d ds ih =>
    cases idx with
    | nil => simp [Valid]
    | cons i is =>
      simp only [Valid, ih is, List.length_cons, Nat.add_right_cancel_iff]
      constructor
      · rintro ⟨h0, h1, h2⟩
        refine ⟨h1, fun k hk => ?_⟩
        cases k with
        | zero => simpa using h0
        | succ k => simpa using h2 k (by omega)
      · rintro ⟨h1, h2⟩
        refine ⟨by simpa using h2 0 (by omega), h1, fun k hk => ?_⟩
        simpa using h2 (k + 1) (by omega)

end Primitiv.Move
