import PrimitivModel.Lemmas.MoveGeneric
import PrimitivModel.Spec.KernelsMove
import Mathlib.Order.Defs.LinearOrder
/-
The loops of the model against the specification: what a sequential writer
leaves in its output, `sumLoop` as the specified sum, the four scans
(`maxLoop`, `argmaxLoop` and, as the same scans in the reversed order,
`minLoop`, `argminLoop`) as `IsMax` / `IsArgmax` / `IsMin` / `IsArgmin`, and the
layout `at4` as `comp3`.
-/
namespace Primitiv.Move
open Primitiv.Spec.Move Primitiv.View3

theorem seqWrite_apply {α} {m : Moves} (hd : ∀ t, m.didx t = t) (src raw : Nat → α) {o : Nat} (ho : o < m.count) :
    scatterSet m.didx m.sidx src m.count raw o = src (m.sidx o) := by
  have := scatterSet_of_once (writesAll_of_id hd rfl).2 src raw ho
  rwa [hd] at this

theorem sumLoop_eq_sumN {α} [Add α] [Zero α] (x : Nat → α) (off : Nat → Nat) (n : Nat) :
    sumLoop x off n = sumN (fun k => x (off k)) n := by
  induction n with
  | zero => rfl
  | succ n ih => simp only [sumLoop, sumN, ih]

theorem argmaxLoop_spec {α} [LinearOrder α] (x : Nat → α) (off : Nat → Nat) (m : Nat) :
    (argmaxLoop x off m).1 = x (off (argmaxLoop x off m).2) ∧
    IsArgmax (fun k => x (off k)) (m + 1) (argmaxLoop x off m).2 := by
  induction m with
  | zero =>
    simp only [argmaxLoop]
    refine ⟨trivial, by omega, fun j hj => ?_, fun j hj => by omega⟩
    obtain rfl : j = 0 := by omega
    exact le_refl _
  | succ m ih =>
    obtain ⟨e, hk, hall, hfirst⟩ := ih
    simp only [argmaxLoop]
    generalize argmaxLoop x off m = p at e hk hall hfirst
    obtain ⟨v, a⟩ := p
    simp only at e hk hall hfirst ⊢
    subst e
    split
    · rename_i hlt
      refine ⟨rfl, by omega, fun j hj => ?_, fun j hj => ?_⟩
      · rcases Nat.lt_or_ge j (m + 1) with h | h
        · exact le_trans (hall j h) (le_of_lt hlt)
        · have : j = m + 1 := by omega
          subst this; exact le_refl _
      · exact lt_of_le_of_lt (hall j (by omega)) hlt
    · rename_i hge
      refine ⟨rfl, by omega, fun j hj => ?_, hfirst⟩
      rcases Nat.lt_or_ge j (m + 1) with h | h
      · exact hall j h
      · have : j = m + 1 := by omega
        subst this; exact not_lt.mp hge

theorem maxLoop_eq_argmaxLoop {α} [LinearOrder α] (x : Nat → α) (off : Nat → Nat) (m : Nat) :
    maxLoop x off (m + 1) = (argmaxLoop x off m).1 := by
  induction m with
  | zero => simp [maxLoop, argmaxLoop]
  | succ m ih =>
    rw [maxLoop, ih, argmaxLoop]
    generalize argmaxLoop x off m = p
    obtain ⟨v, a⟩ := p
    simp only
    split <;> rfl

theorem maxLoop_isMax {α} [LinearOrder α] (x : Nat → α) (off : Nat → Nat) {n : Nat} (hn : 0 < n) :
    IsMax (fun k => x (off k)) n (maxLoop x off n) := by
  obtain ⟨m, rfl⟩ : ∃ m, n = m + 1 := ⟨n - 1, by omega⟩
  have ⟨e, hk, hall, _⟩ := argmaxLoop_spec x off m
  rw [maxLoop_eq_argmaxLoop, e]
  exact ⟨⟨_, hk, rfl⟩, hall⟩

theorem minLoop_eq_dual {α} [LinearOrder α] (x : Nat → α) (off : Nat → Nat) (n : Nat) :
    minLoop x off n = maxLoop (α := αᵒᵈ) x off n := by
  induction n with
  | zero => rfl
  | succ n ih => rw [minLoop, ih]; rfl

theorem minLoop_isMin {α} [LinearOrder α] (x : Nat → α) (off : Nat → Nat) {n : Nat} (hn : 0 < n) :
    IsMin (fun k => x (off k)) n (minLoop x off n) :=
  minLoop_eq_dual x off n ▸ maxLoop_isMax (α := αᵒᵈ) x off hn

theorem argminLoop_eq_dual {α} [LinearOrder α] (x : Nat → α) (off : Nat → Nat) (n : Nat) :
    argminLoop x off n = argmaxLoop (α := αᵒᵈ) x off n := by
  induction n with
  | zero => rfl
  | succ n ih => rw [argminLoop, ih]; rfl

theorem argminLoop_spec {α} [LinearOrder α] (x : Nat → α) (off : Nat → Nat) (m : Nat) :
    (argminLoop x off m).1 = x (off (argminLoop x off m).2) ∧
    IsArgmin (fun k => x (off k)) (m + 1) (argminLoop x off m).2 :=
  argminLoop_eq_dual x off m ▸ argmaxLoop_spec (α := αᵒᵈ) x off m

theorem at4_eq {α} (L n U : Nat) (x : Nat → α) (a k c b : Nat) : at4 L n U x a k c b = x (comp3 L n a k (c + U * b)) := rfl

end Primitiv.Move
