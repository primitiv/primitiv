/-
Strings as numerals, for facts about tables of names that are decided by kernel
evaluation (`Props/C08/Move.lean`, where the names of one table are compared
with those of another, pair by pair).  The kernel decides `a == b` on strings
byte by byte through the whole tower `String → ByteArray → List UInt8 → Nat`; a
numeral is computed once per name and compared in one step.  Core Lean only.
-/
namespace Primitiv

/-- A byte string read as a numeral in base 256, least significant byte first,
behind a leading 1 (so that trailing zero bytes count). -/
def codeOf : List UInt8 → Nat
  | [] => 1
  | b :: l => codeOf l * 256 + b.toNat

theorem codeOf_pos : ∀ l, 0 < codeOf l
  | [] => Nat.one_pos
  | _ :: l => by have := codeOf_pos l; simp only [codeOf]; omega

theorem codeOf_inj : ∀ {l m : List UInt8}, codeOf l = codeOf m → l = m
  | [], [], _ => rfl
  | [], _ :: m, h => by have := codeOf_pos m; simp only [codeOf] at h; omega
  | _ :: l, [], h => by have := codeOf_pos l; simp only [codeOf] at h; omega
  | b :: l, c :: m, h => by
    have hb := b.toNat_lt; have hc := c.toNat_lt
    simp only [codeOf] at h
    rw [codeOf_inj (l := l) (m := m) (by omega), UInt8.toNat_inj.mp (by omega : b.toNat = c.toNat)]

def strCode (s : String) : Nat := codeOf s.toByteArray.data.toList

theorem beq_eq_code (a b : String) : (a == b) = (strCode a == strCode b) := by
  rw [Bool.beq_eq_decide_eq, Bool.beq_eq_decide_eq]
  exact decide_eq_decide.mpr
    ⟨congrArg _, fun h => String.toByteArray_inj.mp (ByteArray.ext (Array.ext' (codeOf_inj h)))⟩

end Primitiv
