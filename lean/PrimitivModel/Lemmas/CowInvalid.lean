import PrimitivModel.Model.Cow
/-
What the operations of Model/Cow.lean answer when an operand is an invalid tensor: the
guards that open them answer `err` and leave the state alone.  Only the text of the
model is used, no invariant (Props/C07.lean, `invalid_rejects_everything`).
-/
namespace Primitiv.Cow

theorem guard_invalid {α : Type} {s : State} {h : Nat} (hinv : getSlot s.pool h = some .invalid) {a b : α}
    {F : Shape → Nat → α} :
    (match getSlot s.pool h with
     | none => a
     | some .invalid => b
     | some (.valid sh bf) => F sh bf) = b := by
  rw [hinv]

theorem guard_some {α : Type} {s : State} {h : Nat} {v : Handle} (hv : getSlot s.pool h = some v) {a : α}
    {F : Handle → α} :
    (match getSlot s.pool h with
     | none => a
     | some v => F v) = F v := by
  rw [hv]

theorem inplace2_invalid {s : State} {h g : Nat} (f : Int → Int → Int)
    (hh : (getSlot s.pool h).isSome = true) (hg : (getSlot s.pool g).isSome = true)
    (hinv : getSlot s.pool h = some .invalid ∨ getSlot s.pool g = some .invalid) :
    inplace2 f s h g = (s, .err) := by
  unfold inplace2
  match h1 : getSlot s.pool h, h2 : getSlot s.pool g with
  | none, _ => simp [h1] at hh
  | _, none => simp [h2] at hg
  | some .invalid, some _ => rfl
  | some (.valid _ _), some .invalid => rfl
  | some (.valid _ _), some (.valid _ _) => simp [h1, h2] at hinv

theorem bwOp_invalid {s : State} {gy gx : Nat} (ok : Shape → Shape → R Bool)
    (K : Shape → Shape → List Int → List Int → List Int) (hne : gy ≠ gx)
    (hy : (getSlot s.pool gy).isSome = true) (hx : (getSlot s.pool gx).isSome = true)
    (hinv : getSlot s.pool gy = some .invalid ∨ getSlot s.pool gx = some .invalid) :
    bwOp s gy gx ok K = (s, .err) := by
  unfold bwOp
  cases h1 : getSlot s.pool gy with
  | none => simp [h1] at hy
  | some vy =>
    cases h2 : getSlot s.pool gx with
    | none => simp [h2] at hx
    | some vx =>
      simp only [if_neg hne]
      rcases hinv with h | h
      · rw [h1] at h; cases h; cases vx <;> rfl
      · rw [h2] at h; cases h; cases vy <;> rfl

theorem abBwOp_invalid {s : State} {gy ga gb : Nat} (g : Int → Int → Int)
    (hne : ¬(gy = ga ∨ gy = gb ∨ ga = gb))
    (hy : (getSlot s.pool gy).isSome = true) (ha : (getSlot s.pool ga).isSome = true)
    (hb : (getSlot s.pool gb).isSome = true)
    (hinv : getSlot s.pool gy = some .invalid ∨ getSlot s.pool ga = some .invalid ∨ getSlot s.pool gb = some .invalid) :
    abBwOp g s gy ga gb = (s, .err) := by
  unfold abBwOp
  cases h1 : getSlot s.pool gy with
  | none => simp [h1] at hy
  | some vy =>
    cases h2 : getSlot s.pool ga with
    | none => simp [h2] at ha
    | some va =>
      cases h3 : getSlot s.pool gb with
      | none => simp [h3] at hb
      | some vb =>
        simp only [if_neg hne]
        rcases hinv with h | h | h
        · rw [h1] at h; cases h; cases va <;> cases vb <;> rfl
        · rw [h2] at h; cases h; cases vy <;> cases vb <;> rfl
        · rw [h3] at h; cases h; cases vy <;> cases va <;> rfl

end Primitiv.Cow
