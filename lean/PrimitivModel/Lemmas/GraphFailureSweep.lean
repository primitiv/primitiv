import PrimitivModel.Lemmas.GraphFailure
import PrimitivModel.Lemmas.GraphSweep
/-
Failures of `backward` (Props/C10), on top of Lemmas/GraphFailure.lean (forward evaluation, fault schedule)
and Lemmas/GraphSweep.lean (the reverse sweep): the reverse sweep cannot fail once the forward phase has
succeeded (`sweep_total`), hence a failing `backward` failed in its forward phase (`backward_error_cases`),
and no gradient is pending between the calls of a history (`run_gradsInvalid`).  Core Lean only.
-/
namespace Primitiv.Graph
variable {τ : Type}

/-- from the invariant of Lemmas/GraphExt.lean to the one the lemmas on the sweep assume -/
theorem WF.argsBelow {s : State τ} (w : WF s) : ArgsBelow s :=
  fun i o ho a ha => (w.args_lt i o ho a ha).1

/-- the arguments of an evaluated operator (and of a Parameter operator) show values -/
theorem WF.args_have_values {s : State τ} (w : WF s) {k : Nat} {o : OpInfo τ} (ho : s.ops[k]? = some o)
    (hev : s.isParam k = true ∨ s.evaluated k) : ∃ xs, o.args.mapM s.valueOf? = some xs := by
  apply mapM_some_of_forall
  intro b hb
  have kok := w.kind_ok k o ho
  rcases hev with hp | hev
  · simp only [State.isParam, ho] at hp
    cases hk : o.kind with
    | param p => rw [hk] at kok; simp only [KindOK] at kok; simp [kok.1] at hb
    | rnd => simp [hk, Kind.isParam] at hp
    | op sem => simp [hk, Kind.isParam] at hp
  · obtain ⟨ob, hob, hvid⟩ := validAddr_iff.1 (w.args_lt k o ho b hb).2
    have kokb := w.kind_ok _ ob hob
    unfold State.valueOf?
    simp only [hob]
    cases hkb : ob.kind with
    | param p =>
      rw [hkb] at kokb; simp only [KindOK] at kokb
      have : b.vid = 0 := by omega
      simp [this]
    | rnd | op sem =>
      have hevb := w.closed k o ho hev b hb (by simp [State.isParam, hob, hkb, Kind.isParam])
      obtain ⟨ob', hob', m, hm, hmv⟩ := hevb
      rw [hob] at hob'; cases hob'
      have hall : ∀ n ∈ ob.rets, n.value.isSome = true := by
        rcases w.all_or_none _ ob hob with h | h
        · simp [h m hm] at hmv
        · exact h
      have hn := hall _ (List.getElem_mem hvid)
      simp only [List.getElem?_eq_getElem hvid]
      exact Option.isSome_iff_exists.1 hn

/-- one iteration of the sweep cannot fail when every enabled operator is an ancestor of `t` and
all non-parameter ancestors of `t` are evaluated -/
theorem backwardStep_ok (T : TOps τ) {s2 s : State τ} (w2 : WF s2) (hf : SameFrame s2 s) {t k : Nat}
    (hk : k < s.ops.length) (hanc : OnlyAnc s2.argsOf t s)
    (hdone : ∀ j, AncOf s2 j t → s2.isParam j = false → s2.evaluated j) :
    (backwardStep T s k).2 = .ok () := by
  rw [backwardStep_eq]
  obtain ⟨o, ho⟩ : ∃ o, s.ops[k]? = some o := ⟨_, List.getElem?_eq_getElem hk⟩
  simp only [ho]
  by_cases hen : (!o.enabled) = true
  · rw [if_pos hen]
  · rw [if_neg hen]
    have ha := (Anc.iff_ancOf s2 k t).1 (enabled_anc ho hen hanc)
    have hlen := view_length hf.skel
    obtain ⟨o2, ho2⟩ : ∃ o2, s2.ops[k]? = some o2 := ⟨_, List.getElem?_eq_getElem (by omega)⟩
    obtain ⟨o', ho', _, hargs, _⟩ := view_op_some hf.skel ho2
    rw [ho] at ho'; cases ho'
    have hev : s2.isParam k = true ∨ s2.evaluated k := by
      cases hp : s2.isParam k with
      | true => exact .inl rfl
      | false => exact .inr (hdone k ha hp)
    obtain ⟨xs, hxs⟩ := w2.args_have_values ho2 hev
    have hv : s.valueOf? = s2.valueOf? := funext (skel_valueOf hf.skel hf.pvalue)
    rw [hargs, hv, hxs]

/-- after a successful forward phase (all non-parameter ancestors of `a` evaluated, all gradients
invalid) the seeded sweep runs to completion -/
theorem sweep_total (T : TOps τ) {s2 : State τ} (w2 : WF s2) (hg : AllGradsInvalid s2) {a : Addr}
    (hv : s2.validAddr a = true)
    (hdone : ∀ j, AncOf s2 j a.oid → s2.isParam j = false → s2.evaluated j) :
    ∃ s', sweep T (a.oid + 1) (seed T s2 a) = (s', .ok ()) := by
  have hseed := seed_sameFrame T s2 a
  obtain ⟨s', hs', _⟩ := sweep_inv_total T
    (fun k s => k ≤ s.ops.length ∧ SameFrame s2 s ∧ OnlyAnc s2.argsOf a.oid s)
    (fun k s ⟨hk, hf, hanc⟩ => by
      have hok := backwardStep_ok T w2 hf (t := a.oid) (k := k) (by omega) hanc hdone
      have hsf := backwardStep_sameFrame T s k
      have hoa := onlyAnc_backwardStep T a.oid k (view_argsOf hf.skel) hanc
      cases hb : backwardStep T s k with
      | mk s1 r =>
        rw [hb] at hok hsf hoa
        simp only at hok hsf hoa
        subst hok
        exact ⟨s1, rfl, by rw [view_length hsf.skel]; omega, hf.trans hsf, hoa⟩)
    (a.oid + 1) (seed T s2 a)
    ⟨by rw [view_length hseed.skel]; exact validAddr_lt hv, hseed, onlyAnc_seed T s2 a hg⟩
  exact ⟨s', hs'⟩

/-- In a well-formed state without pending gradients `backward a` can fail in two ways only: `a`
is not a node of the graph (nothing happens), or the forward evaluation of `a` fails (and then
`backward` stops in the state `forward` reached).  The reverse sweep itself never fails. -/
theorem backward_error_cases (T : TOps τ) {s : State τ} (w : WF s) (hg : AllGradsInvalid s) {a : Addr}
    {s' : State τ} {e : Err} (h : backward T s a = (s', .error e)) :
    (s.validAddr a = false ∧ s' = s ∧ e = .crash) ∨
    (s.validAddr a = true ∧ (∃ n, s.node? a = some n ∧ n.value = none) ∧
      (forward T s a).2 = .error e ∧ s' = (forward T s a).1) := by
  cases hv : s.validAddr a with
  | false =>
    rw [backward_invalid T hv] at h
    simp only [Prod.mk.injEq, Except.error.injEq] at h
    exact .inl ⟨rfl, h.1.symm, h.2.symm⟩
  | true =>
    right
    obtain ⟨n, hn⟩ := node?_of_valid hv
    -- the sweep cannot be what failed: it runs from a state in which the ancestors of `a` are evaluated
    have total : ∀ {s1 : State τ} {l : List Nat}, Ext s s1 l → FwdFrame s s1 →
        (∀ j, AncOf s j a.oid → s.isParam j = false → s1.evaluated j) →
        backward T s a ≠ sweep T (a.oid + 1) (seed T s1 a) := by
      intro s1 l e hf hdone hb
      obtain ⟨s'', hs''⟩ := sweep_total T (e.wf w) (hf.allGradsInvalid hg) (by rw [e.validAddr]; exact hv)
        (fun j hj hp => by rw [e.anc] at hj; rw [e.isParam] at hp; exact hdone j hj hp)
      rw [hb, hs''] at h
      cases h
    cases hval : n.value with
    | some v =>
      exact absurd (backward_memo T hv hn hval) (total (Ext.refl s) (FwdFrame.refl s)
        (fun j hj hp => w.closed_anc hj (evaluated_of_node? hn hval) hp))
    | none =>
      cases hf : (forward T s a).2 with
      | ok v =>
        obtain ⟨l, p⟩ := (forward_spec T w hv).post
        exact absurd (backward_fwd_ok T hv hn hval hf) (total p.ext (forward_fwdFrame T s a)
          (forward_done T w hv hf a (List.mem_singleton_self a)))
      | error e' =>
        rw [backward_fwd_error T hv hn hval hf] at h
        simp only [Prod.mk.injEq, Except.error.injEq] at h
        exact ⟨rfl, ⟨n, hn, hval⟩, by rw [h.2], h.1.symm⟩

theorem AllGradsInvalid.empty (params : Params τ) (sample : Nat → Nat → τ) :
    AllGradsInvalid (State.empty params sample) := by
  intro a
  simp [State.gradAt, State.node?, State.empty]

theorem step_gradsInvalid (T : TOps τ) {s : State τ} (w : WF s) (hg : AllGradsInvalid s) (op : Op τ) :
    AllGradsInvalid (step T s op) := by
  cases op with
  | addOperator kind args sizes =>
    simp only [step]
    cases h : addOperator s kind args sizes with
    | error e => exact hg
    | ok r =>
      obtain ⟨s', i⟩ := r
      exact (addOperator_ginv s s' kind args sizes i ⟨hg, w.argsBelow⟩ h).1
  | forward a => exact (forward_fwdFrame T s a).allGradsInvalid hg
  | backward a =>
    show AllGradsInvalid (backward T s a).1
    cases h : backward T s a with
    | mk s' r =>
      cases r with
      | ok u => cases u; exact backward_allGradsInvalid T s s' a hg w.argsBelow h
      | error e =>
        rcases backward_error_cases T w hg h with ⟨_, rfl, _⟩ | ⟨_, _, _, rfl⟩
        · exact hg
        · exact (forward_fwdFrame T s a).allGradsInvalid hg
  | setParamValue p v => exact hg
  | setFail k => exact hg

theorem run_gradsInvalid (T : TOps τ) {s : State τ} (w : WF s) (hg : AllGradsInvalid s) (h : List (Op τ))
    (hadm : ∀ op ∈ h, op.Admissible) : AllGradsInvalid (run T s h) := by
  induction h generalizing s with
  | nil => exact hg
  | cons op rest ih =>
    exact ih (step_wf T w (hadm op List.mem_cons_self)) (step_gradsInvalid T w hg op)
      (fun op' h' => hadm op' (List.mem_cons_of_mem _ h'))

theorem Reached.gradsInvalid {T : TOps τ} {s : State τ} (h : Reached T s) : AllGradsInvalid s := by
  obtain ⟨params, sample, h, hadm, rfl⟩ := h
  exact run_gradsInvalid T (WF.empty params sample) (AllGradsInvalid.empty params sample) h hadm

end Primitiv.Graph
