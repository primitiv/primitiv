import Mathlib.Algebra.BigOperators.Group.Finset.Sigma
import PrimitivModel.Lemmas.GraphTangent
/-!
Operator semantics over ℝ for the two laws of Lemmas/GraphTangent.lean (`CurveLawAt`, `AdjointLawAt`):
elementwise binary operators (`elemBinary`), linear operators given by a finite matrix with any
number of arguments and return values (`linOp`), bilinear operators (`bilinOp`), and the finite-sum
lemmas their adjoint laws need.  Statements: Props/C01/ChainOps.lean.
-/
namespace Primitiv.Graph
open Finset

def sum2 (ns : List Nat) (F : Nat → Nat → ℝ) : ℝ :=
  ∑ k ∈ range ns.length, ∑ i ∈ range (ns.getD k 0), F k i

theorem sum2_singleton (n : Nat) (F : Nat → Nat → ℝ) : sum2 [n] F = ∑ i ∈ range n, F 0 i :=
  sum_range_one _

theorem sum2_congr (ns : List Nat) (F G : Nat → Nat → ℝ)
    (h : ∀ k, k < ns.length → ∀ i, i < ns.getD k 0 → F k i = G k i) : sum2 ns F = sum2 ns G := by
  unfold sum2
  exact sum_congr rfl fun k hk => sum_congr rfl fun i hi => h k (mem_range.mp hk) i (mem_range.mp hi)

theorem sum2_comm (ns ms : List Nat) (F : Nat → Nat → Nat → Nat → ℝ) :
    sum2 ns (fun k i' => sum2 ms fun j i => F k i' j i) = sum2 ms (fun j i => sum2 ns fun k i' => F k i' j i) := by
  unfold sum2
  calc ∑ k ∈ range ns.length, ∑ i' ∈ range (ns.getD k 0), ∑ j ∈ range ms.length, ∑ i ∈ range (ms.getD j 0), F k i' j i
      = ∑ k ∈ range ns.length, ∑ j ∈ range ms.length, ∑ i' ∈ range (ns.getD k 0), ∑ i ∈ range (ms.getD j 0), F k i' j i :=
        sum_congr rfl fun k _ => sum_comm
    _ = ∑ j ∈ range ms.length, ∑ k ∈ range ns.length, ∑ i' ∈ range (ns.getD k 0), ∑ i ∈ range (ms.getD j 0), F k i' j i :=
        sum_comm
    _ = ∑ j ∈ range ms.length, ∑ k ∈ range ns.length, ∑ i ∈ range (ms.getD j 0), ∑ i' ∈ range (ns.getD k 0), F k i' j i :=
        sum_congr rfl fun j _ => sum_congr rfl fun k _ => sum_comm
    _ = ∑ j ∈ range ms.length, ∑ i ∈ range (ms.getD j 0), ∑ k ∈ range ns.length, ∑ i' ∈ range (ns.getD k 0), F k i' j i :=
        sum_congr rfl fun j _ => sum_comm

theorem sum2_mul_right (ns : List Nat) (F : Nat → Nat → ℝ) (c : ℝ) :
    sum2 ns F * c = sum2 ns fun k i => F k i * c := by
  unfold sum2
  rw [sum_mul]
  exact sum_congr rfl fun k _ => sum_mul _ _ _

theorem sum2_mul_left (ns : List Nat) (F : Nat → Nat → ℝ) (c : ℝ) :
    c * sum2 ns F = sum2 ns fun k i => c * F k i := by
  unfold sum2
  rw [mul_sum]
  exact sum_congr rfl fun k _ => mul_sum _ _ _

theorem getD_map_range (n : Nat) (c : Nat → Vec ℝ) (k : Nat) (hk : k < n) :
    ((List.range n).map c).getD k (fun _ => 0) = c k := by
  simp [List.getD, List.getElem?_map, List.getElem?_range hk]

theorem listContrib_range : ∀ (ns : List Nat) (ts : List (Vec ℝ)) (c : Nat → Vec ℝ), ts.length = ns.length →
    listContrib ns ts ((List.range ns.length).map fun k => some (c k))
      = ∑ k ∈ range ns.length, dot (ns.getD k 0) (c k) (ts.getD k fun _ => 0)
  | [], _, _, _ => by simp [listContrib]
  | _ :: _, [], _, h => by cases h
  | n :: ns, t :: ts, c, h => by
    rw [List.length_cons, List.range_succ_eq_map, List.map_cons, List.map_map, sum_range_succ']
    show dot n (c 0) t + listContrib ns ts ((List.range ns.length).map fun k => some (c (k + 1))) = _
    rw [listContrib_range ns ts (fun k => c (k + 1)) (Nat.succ.inj h), add_comm]
    rfl

/-- elementwise binary operator `y_i = f a_i b_i`; the backward rule adds `bwa a b y gy` into the
first and `bwb a b y gy` into the second argument's gradient -/
def elemBinary (f : ℝ → ℝ → ℝ) (bwa bwb : ℝ → ℝ → ℝ → ℝ → ℝ) : OpSem (Vec ℝ) where
  nret := 1
  fwd := fun xs => match xs with
    | [a, b] => some [fun i => f (a i) (b i)]
    | _ => none
  bwd := fun xs ys gys => match xs, ys, gys with
    | [a, b], [y], [g] => [some fun i => bwa (a i) (b i) (y i) (g i), some fun i => bwb (a i) (b i) (y i) (g i)]
    | _, _, _ => []

theorem elemBinary_nret_le {f : ℝ → ℝ → ℝ} {bwa bwb : ℝ → ℝ → ℝ → ℝ → ℝ} {xs ys : List (Vec ℝ)}
    (h : (elemBinary f bwa bwb).fwd xs = some ys) : (elemBinary f bwa bwb).nret ≤ ys.length :=
  match xs, h with
  | [_, _], rfl => Nat.le_refl 1

/-- Jacobian-vector product with partial derivatives `da`, `db` -/
def elemBinaryJvp (da db : ℝ → ℝ → ℝ) : Jvp := fun xs ts => match xs, ts with
  | [a, b], [ta, tb] => [fun i => da (a i) (b i) * ta i + db (a i) (b i) * tb i]
  | _, _ => []

/-- `f` is differentiable at `(a, b)` along every pair of curves, with partial derivatives `da a b`,
`db a b`, and `bwa`, `bwb` fed with `y = f a b` return `gy · ∂f/∂a`, `gy · ∂f/∂b` -/
def IsBackwardOf2 (f : ℝ → ℝ → ℝ) (bwa bwb : ℝ → ℝ → ℝ → ℝ → ℝ) (da db : ℝ → ℝ → ℝ) (a b : ℝ) : Prop :=
  (∀ (x y : ℝ → ℝ) (x' y' : ℝ), x 0 = a → y 0 = b → HasDerivAt x x' 0 → HasDerivAt y y' 0 →
    HasDerivAt (fun ε => f (x ε) (y ε)) (da a b * x' + db a b * y') 0) ∧
  ∀ g, bwa a b (f a b) g = g * da a b ∧ bwb a b (f a b) g = g * db a b

def linApply (ns : List Nat) (A : Nat → Nat → Nat → Nat → ℝ) (xs : List (Vec ℝ)) (j : Nat) : Vec ℝ :=
  fun i => sum2 ns fun k i' => A j i k i' * xs.getD k (fun _ => 0) i'

/-- Linear operator with argument sizes `ns`, return sizes `ms` and matrix `A j i k i'` (return
value `j`, its element `i`, argument `k`, its element `i'`); the backward rule adds `Aᵀ · gys`. -/
def linOp (ns ms : List Nat) (A : Nat → Nat → Nat → Nat → ℝ) : OpSem (Vec ℝ) where
  nret := ms.length
  fwd := fun xs => if xs.length = ns.length then some ((List.range ms.length).map (linApply ns A xs)) else none
  bwd := fun _ _ gys => (List.range ns.length).map fun k =>
    some fun i' => sum2 ms fun j i => A j i k i' * gys.getD j (fun _ => 0) i

theorem linApply_singleton (n : Nat) (A : Nat → Nat → Nat → Nat → ℝ) (x : Vec ℝ) (j i : Nat) :
    linApply [n] A [x] j i = ∑ i' ∈ range n, A j i 0 i' * x i' :=
  sum2_singleton n _

theorem linOp_nret_le {ns ms : List Nat} {A : Nat → Nat → Nat → Nat → ℝ} {xs ys : List (Vec ℝ)}
    (h : (linOp ns ms A).fwd xs = some ys) : (linOp ns ms A).nret ≤ ys.length := by
  have h' : (if xs.length = ns.length then some ((List.range ms.length).map (linApply ns A xs)) else none)
      = some ys := h
  split at h'
  · rw [← Option.some.inj h', List.length_map, List.length_range]
    exact Nat.le_refl _
  · cases h'

/-- a linear operator is its own Jacobian-vector product -/
def linJvp (ns ms : List Nat) (A : Nat → Nat → Nat → Nat → ℝ) : Jvp :=
  fun _ ts => (List.range ms.length).map (linApply ns A ts)

/-- Bilinear operator `y_j = Σ_{i<na} Σ_{i'<nb} B j i i' * a_i * b_{i'}` (matmul, conv2d, products
with broadcasting); the backward rule adds the two transposes. -/
def bilinOp (na nb m : Nat) (B : Nat → Nat → Nat → ℝ) : OpSem (Vec ℝ) where
  nret := 1
  fwd := fun xs => match xs with
    | [a, b] => some [fun j => ∑ i ∈ range na, ∑ i' ∈ range nb, B j i i' * a i * b i']
    | _ => none
  bwd := fun xs _ gys => match xs, gys with
    | [a, b], [g] => [some fun i => ∑ j ∈ range m, ∑ i' ∈ range nb, B j i i' * g j * b i',
                      some fun i' => ∑ j ∈ range m, ∑ i ∈ range na, B j i i' * g j * a i]
    | _, _ => []

def bilinJvp (na nb : Nat) (B : Nat → Nat → Nat → ℝ) : Jvp := fun xs ts => match xs, ts with
  | [a, b], [ta, tb] => [fun j => ∑ i ∈ range na, ∑ i' ∈ range nb, B j i i' * (ta i * b i' + a i * tb i')]
  | _, _ => []

/-- an operator without arguments that returns fixed values (Input, Constant, zeros, ones, identity) -/
def constOp (vals : List (Vec ℝ)) : OpSem (Vec ℝ) where
  nret := vals.length
  fwd := fun xs => match xs with
    | [] => some vals
    | _ => none
  bwd := fun _ _ _ => []

end Primitiv.Graph
