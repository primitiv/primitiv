import PrimitivModel.Model.Shape
import PrimitivModel.Spec.Shape
/-
The Shape model (Model/Shape.lean) against its specification (Spec/Shape.lean).  Core Lean only.

`Agree r o`: a model result `r : R Shape` and a specification result `o : Option SShape` agree
when both reject (the model with an Error, never with `crash`) or both accept, the accepted model
shape is canonical and its dims/batch are the specification's.  Every rule satisfies
`Agree (Model.rule args) (Spec.rule (toSpec args))` for canonical arguments; the property theorems
of C09 are projections of these lemmas.

On lists of dimensions, `trim` removes a block of trailing ones, so two lists trim to the same
list iff they agree on every axis (`trim_eq_iff`), and the product factors through every axis,
inside or beyond the depth (`prod_pad_set`).
-/
namespace Primitiv.ShapeL
open Primitiv.Spec

/-- `omega` after unfolding the two constants `W = 2^32` and `MAXU = 2^32 - 1`. -/
macro "womega" : tactic => `(tactic| ((try simp only [W, MAXU] at *) <;> omega))

theorem foldl_mul (l : List Nat) (v : Nat) : l.foldl (· * ·) v = v * l.foldl (· * ·) 1 := by
  induction l generalizing v with
  | nil => simp
  | cons d ds ih => simp only [List.foldl_cons]; rw [ih (v * d), ih (1 * d)]; simp [Nat.mul_assoc]

@[simp] theorem prod_nil : prod [] = 1 := rfl
@[simp] theorem prod_cons (d : Nat) (ds : List Nat) : prod (d :: ds) = d * prod ds := by
  unfold prod; simp only [List.foldl_cons]; rw [foldl_mul]; simp

@[simp] theorem prod_append (a b : List Nat) : prod (a ++ b) = prod a * prod b := by
  induction a with
  | nil => simp
  | cons d ds ih => simp [ih, Nat.mul_assoc]

@[simp] theorem prod_replicate_one (n : Nat) : prod (List.replicate n 1) = 1 := by
  induction n with
  | zero => rfl
  | succ n ih => simp [List.replicate_succ, ih]

theorem prod_eq_zero_iff {l : List Nat} : prod l = 0 ↔ 0 ∈ l := by
  induction l with
  | nil => simp
  | cons d ds ih => rw [prod_cons, Nat.mul_eq_zero, ih, List.mem_cons, eq_comm]

theorem prod_pos {l : List Nat} (h : ∀ d ∈ l, d ≠ 0) : 0 < prod l :=
  Nat.pos_of_ne_zero fun e => h 0 (prod_eq_zero_iff.1 e) rfl

theorem foldl_mul32 (l : List Nat) (v : Nat) : l.foldl mul32 v % W = (v * prod l) % W := by
  induction l generalizing v with
  | nil => simp
  | cons d ds ih =>
    simp only [List.foldl_cons, prod_cons]
    rw [ih, mul32, Nat.mod_mul_mod, Nat.mul_assoc]

theorem foldl_mul32_lt (l : List Nat) (v : Nat) (hv : v < W) : l.foldl mul32 v < W := by
  induction l generalizing v with
  | nil => simpa
  | cons d ds ih => exact ih _ (Nat.mod_lt _ (by decide))

theorem prod32_eq (l : List Nat) : prod32 l = prod l % W := by
  have := foldl_mul32 l 1
  rw [Nat.mod_eq_of_lt (foldl_mul32_lt l 1 (by decide))] at this
  simpa [prod32] using this

/- Stated for the default 1 only, so that they rewrite in both directions: `getD · 1` is how
`Shape.get` and `SShape.dimAt` read an axis. -/
theorem getD_lt {l : List Nat} {i : Nat} (h : i < l.length) : l.getD i 1 = l[i] := by
  simp [List.getD_eq_getElem?_getD, List.getElem?_eq_getElem h]
theorem getD_ge {l : List Nat} {i : Nat} (h : l.length ≤ i) : l.getD i 1 = 1 := by
  simp [List.getD_eq_getElem?_getD, List.getElem?_eq_none h]

theorem getD_append_ones (l : List Nat) (k i : Nat) : (l ++ List.replicate k 1).getD i 1 = l.getD i 1 := by
  simp only [List.getD_eq_getElem?_getD, List.getElem?_append, List.getElem?_replicate]
  split
  · rfl
  · rw [List.getElem?_eq_none (by omega)]; split <;> rfl

theorem list_ext_getD {a b : List Nat} (hl : a.length = b.length)
    (h : ∀ i, i < a.length → a.getD i 1 = b.getD i 1) : a = b := by
  apply List.ext_getElem hl
  intro i h1 h2
  have := h i h1
  rwa [getD_lt h1, getD_lt h2] at this

theorem trim_cons (d : Nat) (ds : List Nat) :
    trim (d :: ds) = if trim ds = [] ∧ d = 1 then [] else d :: trim ds := by
  simp only [trim]
  cases h : trim ds <;> simp

theorem trim_append_ones (l : List Nat) : ∃ k, l = trim l ++ List.replicate k 1 := by
  induction l with
  | nil => exact ⟨0, rfl⟩
  | cons d ds ih =>
    obtain ⟨k, hk⟩ := ih
    rw [trim_cons]
    split
    · rename_i h
      rw [h.1] at hk
      exact ⟨k + 1, by rw [hk, h.2]; rfl⟩
    · exact ⟨k, by rw [List.cons_append, ← hk]⟩

theorem getLast?_trim (l : List Nat) : (trim l).getLast? ≠ some 1 := by
  induction l with
  | nil => simp [trim]
  | cons d ds ih =>
    rw [trim_cons]
    split
    · simp
    · rename_i h
      cases ht : trim ds with
      | nil => simpa [ht] using h
      | cons t ts => rw [ht] at ih; simpa using ih

theorem getD_trim (l : List Nat) (i : Nat) : (trim l).getD i 1 = l.getD i 1 := by
  obtain ⟨k, hk⟩ := trim_append_ones l
  rw [← getD_append_ones (trim l) k, ← hk]

theorem length_trim_le (l : List Nat) : (trim l).length ≤ l.length := by
  obtain ⟨k, hk⟩ := trim_append_ones l
  have := congrArg List.length hk
  rw [List.length_append] at this; omega

theorem mem_trim {l : List Nat} {x : Nat} (h : x ∈ trim l) : x ∈ l := by
  obtain ⟨k, hk⟩ := trim_append_ones l
  rw [hk]; exact List.mem_append_left _ h

theorem prod_trim (l : List Nat) : prod (trim l) = prod l := by
  obtain ⟨k, hk⟩ := trim_append_ones l
  have := congrArg prod hk
  rw [prod_append, prod_replicate_one, Nat.mul_one] at this; exact this.symm

theorem trim_eq_self_iff {l : List Nat} : trim l = l ↔ l.getLast? ≠ some 1 := by
  constructor
  · intro h; rw [← h]; exact getLast?_trim l
  · intro h
    obtain ⟨k, hk⟩ := trim_append_ones l
    cases k with
    | zero => simpa using hk.symm
    | succ k => rw [hk] at h; simp [List.getLast?_replicate] at h

theorem trim_eq_iff {a b : List Nat} : trim a = trim b ↔ ∀ i, a.getD i 1 = b.getD i 1 := by
  constructor
  · intro h i; rw [← getD_trim a, ← getD_trim b, h]
  · intro h
    -- the last entry of `trim a` is not 1, so `trim b` cannot be shorter
    have key : ∀ a b : List Nat, (∀ i, a.getD i 1 = b.getD i 1) → (trim a).length ≤ (trim b).length := by
      intro a b h
      apply Nat.le_of_not_lt
      intro hlt
      apply getLast?_trim a
      rw [List.getLast?_eq_getElem?, List.getElem?_eq_getElem (by omega), ← getD_lt (by omega), getD_trim, h,
        ← getD_trim, getD_ge (by omega)]
    apply list_ext_getD (Nat.le_antisymm (key a b h) (key b a (fun i => (h i).symm)))
    intro i _; rw [getD_trim, getD_trim, h]

theorem trim_trim (l : List Nat) : trim (trim l) = trim l := trim_eq_iff.2 (getD_trim l)

theorem trimmed_eq_iff {a b : List Nat} (ha : trim a = a) (hb : trim b = b) :
    a = b ↔ ∀ i, a.getD i 1 = b.getD i 1 := by
  rw [← trim_eq_iff, ha, hb]

theorem getD_set_one (l : List Nat) (d i : Nat) :
    (l.set d 1).getD i 1 = if i = d then 1 else l.getD i 1 := by
  simp only [List.getD_eq_getElem?_getD, List.getElem?_set]
  split
  · rename_i h; subst h; split <;> simp_all
  · split <;> simp_all <;> omega

theorem prod_set {l : List Nat} {d : Nat} (h : d < l.length) :
    ∃ q, prod l = l[d] * q ∧ ∀ m, prod (l.set d m) = q * m := by
  induction l generalizing d with
  | nil => simp at h
  | cons x xs ih =>
    cases d with
    | zero => exact ⟨prod xs, by simp, by simp [Nat.mul_comm]⟩
    | succ d =>
      obtain ⟨q, h1, h2⟩ := ih (d := d) (by simpa using h)
      exact ⟨x * q, by simp [h1, Nat.mul_left_comm], by simp [h2, Nat.mul_assoc]⟩

/-- `dims1` of `Shape.updateDim`, `padded` of `Spec.setDim`. -/
def pad (l : List Nat) (d : Nat) : List Nat :=
  if d ≥ l.length then l ++ List.replicate (d + 1 - l.length) 1 else l

theorem pad_eq (l : List Nat) (d : Nat) : pad l d = l ++ List.replicate (d + 1 - l.length) 1 := by
  unfold pad; split
  · rfl
  · rw [show d + 1 - l.length = 0 by omega]; simp

theorem length_pad (l : List Nat) (d : Nat) : (pad l d).length = max l.length (d + 1) := by
  rw [pad_eq, List.length_append, List.length_replicate]; omega

theorem getD_pad (l : List Nat) (d i : Nat) : (pad l d).getD i 1 = l.getD i 1 := by
  rw [pad_eq, getD_append_ones]

theorem prod_pad_set (l : List Nat) (d : Nat) :
    ∃ q, prod l = l.getD d 1 * q ∧ ∀ m, prod ((pad l d).set d m) = q * m := by
  have hlen : d < (pad l d).length := by rw [length_pad]; omega
  obtain ⟨q, hq1, hq2⟩ := prod_set hlen
  rw [← getD_lt hlen, getD_pad, pad_eq, prod_append, prod_replicate_one, Nat.mul_one] at hq1
  exact ⟨q, hq1, hq2⟩

theorem mk_eq (dims : List Nat) (b : Nat) : Spec.mk dims b =
    if dims.length > 8 ∨ prod dims = 0 ∨ b = 0 ∨ prod dims * b ≥ W then none else some ⟨trim dims, b⟩ := by
  unfold Spec.mk
  have : (dims.any (· == 0) = true) ↔ prod dims = 0 := by rw [prod_eq_zero_iff]; simp
  simp only [this]

theorem prodChk_some {l : List Nat} {v r : Nat} (h : Shape.prodChk l v = some r) : r = v * prod l := by
  induction l generalizing v with
  | nil => simp [Shape.prodChk] at h; simp [h]
  | cons d ds ih =>
    simp only [Shape.prodChk] at h
    split at h
    · cases h
    · rw [ih h, prod_cons, Nat.mul_assoc]

theorem prodChk_eq {l : List Nat} (hl : ∀ d ∈ l, d ≠ 0) (v : Nat) (hv : v ≤ MAXU) :
    Shape.prodChk l v = if v * prod l > MAXU then none else some (v * prod l) := by
  induction l generalizing v with
  | nil => simp [Shape.prodChk]; omega
  | cons d ds ih =>
    have hp := prod_pos (fun y hy => hl y (List.mem_cons_of_mem _ hy))
    simp only [Shape.prodChk, prod_cons]
    rw [← Nat.mul_assoc]
    have : v * d ≤ v * d * prod ds := Nat.le_mul_of_pos_right _ hp
    split
    · rw [if_pos (by omega)]
    · rw [ih (fun y hy => hl y (List.mem_cons_of_mem _ hy)) _ (by omega)]

end Primitiv.ShapeL

namespace Primitiv
open Primitiv.Spec Primitiv.ShapeL

/-- The class invariant of primitiv::Shape. -/
def Shape.Canonical (s : Shape) : Prop :=
  s.dims.length ≤ 8 ∧ (∀ d ∈ s.dims, d ≠ 0) ∧ trim s.dims = s.dims ∧ s.batch ≠ 0 ∧
  s.volume = Spec.prod s.dims ∧ s.volume * s.batch ≤ MAXU

instance (s : Shape) : Decidable s.Canonical := by unfold Shape.Canonical; infer_instance

def toSpec (s : Shape) : SShape := ⟨s.dims, s.batch⟩

def toSpec? : R Shape → Option SShape
  | .ok s => some (toSpec s)
  | .error _ => none

def Agree (r : R Shape) (o : Option SShape) : Prop :=
  match r, o with
  | .ok s, some t => toSpec s = t ∧ s.Canonical
  | .error .error, none => True
  | _, _ => False

@[simp] theorem toSpec_dims (s : Shape) : (toSpec s).dims = s.dims := rfl
@[simp] theorem toSpec_batch (s : Shape) : (toSpec s).batch = s.batch := rfl
@[simp] theorem toSpec_depth (s : Shape) : (toSpec s).depth = s.depth := rfl
@[simp] theorem toSpec_dimAt (s : Shape) (i : Nat) : (toSpec s).dimAt i = s.get i := rfl
@[simp] theorem toSpec_compat (a b : Shape) :
    compatibleBatch (toSpec a) (toSpec b) = a.hasCompatibleBatch b := rfl

namespace Shape.Canonical
variable {s : Shape} (h : s.Canonical)
include h
theorem len : s.dims.length ≤ 8 := h.1
theorem nz : ∀ d ∈ s.dims, d ≠ 0 := h.2.1
theorem trimmed : trim s.dims = s.dims := h.2.2.1
theorem batch_ne : s.batch ≠ 0 := h.2.2.2.1
theorem vol : s.volume = Spec.prod s.dims := h.2.2.2.2.1
theorem bound : s.volume * s.batch ≤ MAXU := h.2.2.2.2.2
theorem vol_pos : 0 < s.volume := by rw [h.vol]; exact prod_pos h.nz
theorem vol_lt : s.volume < W := by
  have := h.bound; have := h.batch_ne
  have : s.volume ≤ s.volume * s.batch := Nat.le_mul_of_pos_right _ (by omega)
  womega
theorem batch_lt : s.batch < W := by
  have := h.bound; have := h.vol_pos
  have : s.batch ≤ s.volume * s.batch := Nat.le_mul_of_pos_left _ (by omega)
  womega
/-- `q` is the volume of the other axes. -/
theorem factor (i : Nat) :
    ∃ q, 0 < q ∧ s.volume = s.get i * q ∧ ∀ m, prod ((pad s.dims i).set i m) = q * m := by
  obtain ⟨q, hq1, hq2⟩ := prod_pad_set s.dims i
  rw [← h.vol] at hq1
  exact ⟨q, Nat.pos_of_mul_pos_left (hq1 ▸ h.vol_pos), hq1, hq2⟩
theorem get_pos (i : Nat) : 0 < s.get i := by
  obtain ⟨q, _, hq, _⟩ := h.factor i
  exact Nat.pos_of_mul_pos_right (hq ▸ h.vol_pos)
theorem get_le_vol (i : Nat) : s.get i ≤ s.volume := by
  obtain ⟨q, hq0, hq, _⟩ := h.factor i
  rw [hq]; exact Nat.le_mul_of_pos_right _ hq0
theorem get_lt (i : Nat) : s.get i < W := Nat.lt_of_le_of_lt (h.get_le_vol i) h.vol_lt
/-- `size()` is a 32-bit multiplication in the code; it does not wrap. -/
theorem size_eq : s.size = s.batch * s.volume := by
  unfold Shape.size mul32
  have := h.bound
  rw [Nat.mod_eq_of_lt]; rw [Nat.mul_comm]; womega
theorem withBatch {b : Nat} (hb : b ≠ 0) (hv : s.volume * b ≤ MAXU) :
    ({ s with batch := b } : Shape).Canonical :=
  ⟨h.len, h.nz, h.trimmed, hb, h.vol, hv⟩
end Shape.Canonical

theorem toSpec_volume {s : Shape} (h : s.Canonical) : (toSpec s).volume = s.volume := h.vol.symm

theorem Shape.get_of_short {s : Shape} {i : Nat} (h : s.dims.length ≤ i) : s.get i = 1 := getD_ge h

namespace Agree
theorem error : Agree throwError none := trivial
theorem ok {s : Shape} (h : s.Canonical) : Agree (pure s) (some (toSpec s)) := ⟨rfl, h⟩

theorem toSpec_eq {r : R Shape} {o : Option SShape} (h : Agree r o) : toSpec? r = o := by
  unfold Agree at h
  split at h
  · simp [toSpec?, h.1]
  · rfl
  · exact h.elim

theorem not_crash {r : R Shape} {o : Option SShape} (h : Agree r o) : r ≠ crash := by
  intro e; subst e; cases o <;> simp [Agree, crash] at h

theorem canonical {r : R Shape} {o : Option SShape} (h : Agree r o) {s : Shape} (e : r = .ok s) :
    s.Canonical := by
  subst e
  cases o with
  | none => simp [Agree] at h
  | some t => exact h.2

theorem ok_inv {s : Shape} {o : Option SShape} (h : Agree (.ok s) o) :
    o = some (toSpec s) ∧ s.Canonical := by
  cases o with
  | none => exact h.elim
  | some t => exact ⟨congrArg some h.1.symm, h.2⟩

theorem bind {r : R Shape} {o : Option SShape} {g : Shape → R Shape} {g' : SShape → Option SShape}
    (h : Agree r o) (hg : ∀ s, s.Canonical → Agree (g s) (g' (toSpec s))) :
    Agree (r >>= g) (o.bind g') := by
  unfold Agree at h
  split at h
  · obtain ⟨h1, h2⟩ := h; subst h1; exact hg _ h2
  · exact trivial
  · exact h.elim

/-- A guard of the code that the specification does not spell out: where it fires, the
specification rejects as well. -/
theorem guard {c : Prop} [Decidable c] {r : R Shape} {o : Option SShape}
    (hc : c → o = none) (h : ¬ c → Agree r o) : Agree (if c then throwError else r) o := by
  by_cases hcc : c
  · rw [if_pos hcc, hc hcc]; exact error
  · rw [if_neg hcc]; exact h hcc

/-- The step every rule is built from. -/
theorem ite {c c' : Prop} [Decidable c] [Decidable c'] {r : R Shape} {o : Option SShape}
    (hc : c ↔ c') (h : ¬ c → Agree r o) :
    Agree (if c then throwError else r) (if c' then none else o) :=
  guard (fun hcc => if_pos (hc.1 hcc)) fun hcc => by rw [if_neg (mt hc.2 hcc)]; exact h hcc

/-- The guard `c` is left open: the constructor, `update_batch` and `update_dim` each test their own. -/
theorem spec_mk {c : Prop} [Decidable c] {dims : List Nat} {b v : Nat}
    (hc : c ↔ dims.length > 8 ∨ prod dims = 0 ∨ b = 0 ∨ prod dims * b ≥ W)
    (hv : ¬ c → v = prod dims) :
    Agree (if c then throwError else pure ⟨trim dims, b, v⟩) (Spec.mk dims b) := by
  rw [mk_eq]
  refine ite hc fun hn => ⟨rfl, ?_⟩
  have hn' := mt hc.2 hn
  simp only [not_or] at hn'
  obtain ⟨h1, h2, h3, h4⟩ := hn'
  exact ⟨Nat.le_trans (length_trim_le _) (by omega),
    fun d hd e => h2 (prod_eq_zero_iff.2 (e ▸ mem_trim hd)), trim_trim _, h3,
    (hv hn).trans (prod_trim _).symm, by rw [hv hn]; womega⟩
end Agree

/-- Used from right to left: the code tests its conditions one after the other, each with its own
`throwError`, where `spec_mk` and the specification have one `if` over the disjunction. -/
theorem if_or {α : Type} {a b : Prop} [Decidable a] [Decidable b] (t e : α) :
    (if a then t else if b then t else e) = if a ∨ b then t else e := by
  by_cases a <;> by_cases b <;> simp [*]

theorem new_agree (dims : List Nat) (b : Nat) : Agree (Shape.new dims b) (Spec.mk dims b) := by
  unfold Shape.new
  by_cases hl : dims.length > 8
  · rw [if_pos hl, mk_eq, if_pos (.inl hl)]; exact Agree.error
  rw [if_neg hl]
  by_cases hz : prod dims = 0
  · -- a zero dimension: if the running product gets through, the volume is 0 and is rejected
    rw [mk_eq, if_pos (.inr (.inl hz))]
    cases hp : Shape.prodChk dims 1 with
    | none => exact Agree.error
    | some vol =>
      have : vol = 0 := by rw [prodChk_some hp, hz]
      simp only [this, true_or, if_true]; exact Agree.error
  rw [prodChk_eq (fun d hd e => hz (prod_eq_zero_iff.2 (e ▸ hd))) 1 (by decide), Nat.one_mul]
  have : b ≠ 0 → prod dims ≤ prod dims * b := fun hb => Nat.le_mul_of_pos_right _ (by omega)
  by_cases hbig : prod dims > MAXU
  · rw [if_pos hbig, mk_eq, if_pos (by womega)]; exact Agree.error
  · rw [if_neg hbig]; exact Agree.spec_mk (by womega) fun _ => rfl

theorem Shape.Canonical.new_self {s : Shape} (h : s.Canonical) : Shape.new s.dims s.batch = .ok s := by
  have hl := h.len; have hb := h.batch_ne; have hv := h.vol_pos; have hbd := h.bound
  have : s.volume ≤ s.volume * s.batch := Nat.le_mul_of_pos_right _ (by omega)
  unfold Shape.new
  rw [if_neg (by omega), prodChk_eq h.nz 1 (by decide), Nat.one_mul, ← h.vol, if_neg (by omega)]
  show (if s.volume = 0 ∨ s.batch = 0 ∨ s.volume * s.batch > MAXU then throwError
    else pure (Shape.mk (trim s.dims) s.batch s.volume)) = _
  rw [if_neg (by omega), h.trimmed]; rfl

/- `update_batch` and `update_dim` do not go through the constructor, so `spec_mk` is instantiated
with the guard `c` they do test (and the volume they do store); `hc` then says that on a canonical
shape this guard rejects what `Spec.mk` rejects, and `← if_or` brings `c` into the code's nested form. -/
theorem updateBatch_agree {s : Shape} (h : s.Canonical) (b : Nat) :
    Agree (s.updateBatch b) (Spec.setBatch (toSpec s) b) := by
  have hl := h.len; have hv := h.vol_pos
  have := Agree.spec_mk (c := b = 0 ∨ s.volume * b > MAXU) (dims := s.dims) (b := b) (v := s.volume)
    (by rw [← h.vol]; womega) fun _ => h.vol
  rwa [h.trimmed, ← if_or] at this

theorem updateDim_agree {s : Shape} (h : s.Canonical) (d m : Nat) :
    Agree (s.updateDim d m) (Spec.setDim (toSpec s) d m) := by
  unfold Spec.setDim Shape.updateDim
  refine Agree.ite Iff.rfl fun hd => ?_
  obtain ⟨q, hq0, hq1, hq2⟩ := h.factor d
  have hg := h.get_pos d
  have hnv : s.volume / s.get d = q := by rw [hq1]; exact Nat.mul_div_cancel_left _ hg
  have hl := h.len; have hb := h.batch_ne
  have h0 : q * m = 0 ↔ m = 0 := by rw [Nat.mul_eq_zero]; omega
  have : q * m ≤ q * m * s.batch := Nat.le_mul_of_pos_right _ (by omega)
  have := Agree.spec_mk (c := m = 0 ∨ q * m > MAXU ∨ q * m * s.batch > MAXU)
    (dims := (pad s.dims d).set d m) (b := s.batch) (v := q * m)
    (by rw [hq2, List.length_set, length_pad, h0]; womega) fun _ => (hq2 m).symm
  rw [← if_or] at this
  simp only [hnv, if_neg (Nat.ne_of_gt hg)]
  exact this

theorem hasSameDims_iff (a b : Shape) : a.hasSameDims b = true ↔ a.dims = b.dims := by
  unfold Shape.hasSameDims Shape.depth
  simp only [Bool.and_eq_true, List.all_eq_true, List.mem_range, beq_iff_eq]
  constructor
  · rintro ⟨h1, h2⟩; exact list_ext_getD h2 h1
  · intro h; simp [h]

theorem sub32_eq {a b : Nat} (h : b < a) (ha : a < W) : sub32 a b = a - b := by
  unfold sub32
  rw [Nat.mod_eq_of_lt (Nat.lt_trans h ha), show a + W - b = a - b + W by omega, Nat.add_mod_right,
    Nat.mod_eq_of_lt (by omega)]

theorem mul32_div_mul {t : Nat} (n : Nat) (ht : t < W) : mul32 (t / n) n = t / n * n :=
  Nat.mod_eq_of_lt (Nat.lt_of_le_of_lt (Nat.div_mul_le_self t n) ht)

namespace ShapeOps
open Shape

theorem reshape_agree {a b : Shape} (ha : a.Canonical) (hb : b.Canonical) :
    Agree (reshape a b) (Spec.reshape (toSpec a) (toSpec b)) := by
  unfold reshape Spec.reshape
  refine Agree.ite ?_ fun _ => updateBatch_agree hb _
  simp [toSpec_volume ha, toSpec_volume hb, hasBatch]

theorem flatten_agree {x : Shape} (hx : x.Canonical) :
    Agree (flatten x) (Spec.flatten (toSpec x)) := by
  unfold flatten Spec.flatten
  rw [toSpec_volume hx]; exact new_agree _ _

theorem scalarOp_agree {x : Shape} (hx : x.Canonical) (k : Shape) :
    Agree (scalarOp x k) (Spec.scalarOp (toSpec x) (toSpec k)) := by
  unfold scalarOp Spec.scalarOp
  refine Agree.ite ?_ fun _ => updateBatch_agree hx _
  simp [isScalar]

theorem elementwise_agree {a : Shape} (ha : a.Canonical) (b : Shape) :
    Agree (elementwise a b) (Spec.elementwise (toSpec a) (toSpec b)) := by
  unfold elementwise Spec.elementwise
  refine Agree.ite ?_ fun _ => updateBatch_agree ha _
  simp [← hasSameDims_iff a b]

theorem slice_agree {x : Shape} (hx : x.Canonical) (d lo up : Nat) :
    Agree (slice x d lo up) (Spec.slice (toSpec x) d lo up) := by
  unfold slice Spec.slice
  refine Agree.ite Iff.rfl fun hc => ?_
  have hup := hx.get_lt d
  rw [toSpec_depth]
  split
  · exact Agree.ok hx
  · rw [sub32_eq (by omega) (by omega)]; exact updateDim_agree hx _ _

theorem broadcast_agree {x : Shape} (hx : x.Canonical) (d n : Nat) :
    Agree (broadcast x d n) (Spec.broadcast (toSpec x) d n) := by
  unfold broadcast Spec.broadcast
  exact Agree.ite Iff.rfl fun _ => updateDim_agree hx _ _

theorem transpose_agree (x : Shape) :
    Agree (transpose x) (Spec.transpose (toSpec x)) := by
  unfold transpose Spec.transpose
  exact Agree.ite (by simp [isMatrix]) fun _ => new_agree _ _

theorem matmul_agree (l r : Shape) :
    Agree (matmul l r) (Spec.matmul (toSpec l) (toSpec r)) := by
  unfold matmul Spec.matmul
  exact Agree.ite (by simp [isMatrix, or_assoc]) fun _ => new_agree _ _

theorem batchSlice_agree {x : Shape} (hx : x.Canonical) (lo up : Nat) :
    Agree (batchSlice x lo up) (Spec.batchSlice (toSpec x) lo up) := by
  unfold batchSlice Spec.batchSlice
  refine Agree.ite Iff.rfl fun hc => ?_
  have := hx.batch_lt
  rw [sub32_eq (by omega) (by omega)]; exact updateBatch_agree hx _

/-- The divisibility test of the two Split rules, `span * n != total` in 32 bits. -/
theorem split_cond {t n : Nat} (ht : t < W) : mul32 (t / n) n ≠ t ↔ t % n ≠ 0 := by
  rw [mul32_div_mul n ht]
  have := Nat.div_add_mod t n
  rw [Nat.mul_comm] at this
  omega

theorem split_agree {x : Shape} (hx : x.Canonical) (d n : Nat) :
    Agree (split x d n) (Spec.split (toSpec x) d n) := by
  unfold split Spec.split
  rw [← if_or]
  exact Agree.ite Iff.rfl fun _ =>
    Agree.ite (split_cond (hx.get_lt d)) fun _ => updateDim_agree hx _ _

theorem batchSplit_agree {x : Shape} (hx : x.Canonical) (n : Nat) :
    Agree (batchSplit x n) (Spec.batchSplit (toSpec x) n) := by
  unfold batchSplit Spec.batchSplit
  rw [← if_or]
  exact Agree.ite Iff.rfl fun _ =>
    Agree.ite (split_cond hx.batch_lt) fun _ => updateBatch_agree hx _

theorem pick_agree {x : Shape} (hx : x.Canonical) (ids : List Nat) (d : Nat) (hids : ids.length < W) :
    Agree (pick x ids d) (Spec.pick (toSpec x) ids d) := by
  unfold pick Spec.pick
  simp only [Nat.mod_eq_of_lt hids]
  exact Agree.ite (by simp [hasBatch]) fun _ =>
    Agree.ite Iff.rfl fun _ =>
      Agree.bind (updateDim_agree hx _ _) fun r hr => updateBatch_agree hr _

theorem batchPick_agree {x : Shape} (hx : x.Canonical) (ids : List Nat) (hids : ids.length < W) :
    Agree (batchPick x ids) (Spec.batchPick (toSpec x) ids) := by
  unfold batchPick Spec.batchPick
  simp only [Nat.mod_eq_of_lt hids]
  rw [← if_or]
  exact Agree.ite Iff.rfl fun _ =>
    Agree.ite Iff.rfl fun _ => updateBatch_agree hx _

theorem conv2d_agree (x w : Shape) (p0 p1 s0 s1 d0 d1 : Nat) :
    Agree (conv2d x w p0 p1 s0 s1 d0 d1) (Spec.conv2d (toSpec x) (toSpec w) p0 p1 s0 s1 d0 d1) := by
  unfold conv2d Spec.conv2d
  exact Agree.ite Iff.rfl fun _ =>
    Agree.ite (by simp only [toSpec_dimAt, W, MAXU]; omega) fun _ => new_agree _ _

theorem pool2d_agree (x : Shape) (w0 w1 p0 p1 s0 s1 : Nat) :
    Agree (pool2d x w0 w1 p0 p1 s0 s1) (Spec.pool2d (toSpec x) w0 w1 p0 p1 s0 s1) := by
  unfold pool2d Spec.pool2d
  exact Agree.ite Iff.rfl fun _ =>
    Agree.ite (by simp only [toSpec_dimAt, W, MAXU]; omega) fun _ => new_agree _ _

theorem softmaxCrossEntropy_agree {x : Shape} (hx : x.Canonical) (t : Shape) (dim : Nat) :
    Agree (softmaxCrossEntropy x t dim) (Spec.softmaxCrossEntropy (toSpec x) (toSpec t) dim) :=
  Agree.bind (elementwise_agree hx t) fun _ hy => updateDim_agree hy dim 1

theorem permuteLoop_eq (x : Shape) (n : Nat) (ps picked : List Nat) (hp : picked.Nodup) :
    permuteLoop x n ps picked =
      if ps.any (fun p => decide (p ≥ n)) then throwError
      else if !(ps ++ picked).Nodup then throwError else pure (ps.map x.get) := by
  induction ps generalizing picked with
  | nil => simp [permuteLoop, hp]
  | cons p ps ih =>
    simp only [permuteLoop, List.any_cons, List.map_cons, List.cons_append]
    by_cases h1 : p ≥ n
    · simp [h1]
    by_cases h2 : p ∈ picked
    · simp [h1, h2]
    rw [if_neg h1, if_neg (by simpa using h2), ih _ (List.nodup_cons.2 ⟨h2, hp⟩)]
    simp only [h1, decide_false, Bool.false_or, List.perm_middle.nodup_iff]
    split
    · rfl
    · split <;> rfl

theorem permuteDims_agree (x : Shape) (perm : List Nat) :
    Agree (permuteDims x perm) (Spec.permuteDims (toSpec x) perm) := by
  unfold permuteDims Spec.permuteDims
  refine Agree.ite Iff.rfl fun _ => ?_
  rw [permuteLoop_eq _ _ _ _ List.nodup_nil, List.append_nil]
  split
  · exact Agree.error
  · split
    · exact Agree.error
    · exact new_agree _ _

end ShapeOps

/-- Equal on every axis except `d`: the dimension lists with axis `d` overwritten by 1 trim to the
same list.  Neither side computes this list: the code compares prefixes of length `looLen`
(`looLen_eq`), the specification every axis `≠ d` (`sameLoo_iff`); both are reduced to it. -/
theorem trim_set_one_eq_iff {a b : List Nat} {d : Nat} :
    trim (a.set d 1) = trim (b.set d 1) ↔ ∀ i, i ≠ d → a.getD i 1 = b.getD i 1 := by
  rw [trim_eq_iff]
  constructor
  · intro h i hi
    have := h i
    rwa [getD_set_one, getD_set_one, if_neg hi, if_neg hi] at this
  · intro h i
    rw [getD_set_one, getD_set_one]
    split
    · rfl
    · exact h i ‹_›

theorem sameLoo_iff (a b : SShape) (d : Nat) :
    Spec.sameLoo a b d = true ↔ ∀ i, i ≠ d → a.dimAt i = b.dimAt i := by
  unfold Spec.sameLoo SShape.dimAt SShape.depth
  simp only [List.all_eq_true, List.mem_range, Bool.or_eq_true, beq_iff_eq]
  constructor
  · intro h i hne
    by_cases hi : i < max a.dims.length b.dims.length
    · exact (h i hi).resolve_left hne
    · rw [getD_ge (by omega), getD_ge (by omega)]
  · intro h i _
    by_cases hid : i = d
    · exact .inl hid
    · exact .inr (h i hid)

theorem looLen_eq {s : Shape} (ht : trim s.dims = s.dims) (d : Nat) :
    s.looLen d = pure (trim (s.dims.set d 1)).length := by
  unfold Shape.looLen Shape.depth
  split
  · -- `d` is the last axis: overwriting it by 1 is dropping it and appending a 1
    rename_i h
    rw [List.set_eq_take_append_cons_drop, if_pos (by omega), List.drop_of_length_le (by omega)]
    exact congrArg _ (congrArg _ (trim_eq_iff.2 (getD_append_ones _ 1)).symm)
  · -- otherwise the last axis is untouched and the list stays trimmed
    rename_i h
    by_cases h1 : s.dims.length ≤ d
    · rw [List.set_eq_of_length_le h1]
    · have h2 : trim (s.dims.set d 1) = s.dims.set d 1 := by
        rw [trim_eq_self_iff, List.getLast?_eq_getElem?, List.length_set, List.getElem?_set_ne (by omega),
          ← List.getLast?_eq_getElem?]
        exact trim_eq_self_iff.1 ht
      rw [h2, ht, List.length_set]

theorem hasSameLooDims_eq {a b : Shape} (ha : trim a.dims = a.dims) (hb : trim b.dims = b.dims) (d : Nat) :
    a.hasSameLooDims b d = pure (Spec.sameLoo (toSpec a) (toSpec b) d) := by
  unfold Shape.hasSameLooDims
  rw [looLen_eq ha, looLen_eq hb]
  show (pure _ : R Bool) = pure _
  congr 1
  rw [Bool.eq_iff_iff]
  refine Iff.trans ?_ (trim_set_one_eq_iff.trans (sameLoo_iff (toSpec a) (toSpec b) d).symm)
  simp only [Bool.and_eq_true, beq_iff_eq, List.all_eq_true, List.mem_range, Bool.or_eq_true]
  constructor
  · rintro ⟨h1, h2⟩
    apply list_ext_getD h1
    intro i hi
    rw [getD_trim, getD_trim, getD_set_one, getD_set_one]
    split
    · rfl
    · exact (h2 i hi).resolve_right ‹_›
  · intro h
    refine ⟨congrArg List.length h, fun i _ => ?_⟩
    by_cases hid : i = d
    · exact .inr hid
    · exact .inl (trim_set_one_eq_iff.1 h i hid)

/- The sum `foldl (· + ·) 0` of `Spec.concat`, `Spec.batchConcat` and the two model loops, under a
name so that `lsum_cons` can be a simp lemma; `← lsum.eq_1` folds the specification's text into it. -/
def lsum (l : List Nat) : Nat := l.foldl (· + ·) 0

theorem foldl_add (l : List Nat) (v : Nat) : l.foldl (· + ·) v = v + l.foldl (· + ·) 0 := by
  induction l generalizing v with
  | nil => simp
  | cons d ds ih => simp only [List.foldl_cons]; rw [ih (v + d), ih (0 + d)]; omega

@[simp] theorem lsum_nil : lsum [] = 0 := rfl
@[simp] theorem lsum_cons (d : Nat) (ds : List Nat) : lsum (d :: ds) = d + lsum ds := by
  unfold lsum; simp only [List.foldl_cons]; rw [foldl_add]; omega

def comb (x r : Nat) : Option Nat :=
  if x = r ∨ x = 1 then some r else if r = 1 then some x else none

theorem commonBatch_cons (s : SShape) (rest : List SShape) :
    commonBatch (s :: rest) = (commonBatch rest).bind (comb s.batch) := by
  simp only [commonBatch]; rfl

theorem comb_one (x : Nat) : comb x 1 = some x := by
  unfold comb; by_cases h : x = 1 <;> simp [h]

/-- The code merges the batch `b` of the next operand into its running batch `B` before it sees
the rest; the specification merges `b` into the rest first. -/
theorem comb_merge (B b : Nat) (o : Option Nat) :
    (o.bind (comb b)).bind (comb B) =
      if B = b ∨ B = 1 ∨ b = 1 then o.bind (comb (if B = 1 then b else B)) else none := by
  cases o with
  | none => simp
  | some r =>
    simp only [Option.bind_some]
    by_cases h1 : B = 1
    · have : comb 1 = some := funext fun r => by simp [comb]
      simp [h1, this]
    by_cases h2 : b = 1
    · simp [h1, h2, comb]
    by_cases h3 : B = b
    · by_cases h4 : r = 1 <;> by_cases h5 : b = r <;> simp [comb, h2, h3, h4, h5]
    · by_cases h4 : r = 1 <;> by_cases h5 : b = r <;> simp_all [comb]

theorem comb_some {x r b : Nat} (h : comb x r = some b) : (b = r ∨ b = x) ∧ (x = 1 ∨ b = x) := by
  unfold comb at h
  split at h
  · cases h; omega
  · split at h
    · cases h; omega
    · cases h

theorem commonBatch_ne_zero {l : List SShape} {b : Nat} (h : commonBatch l = some b)
    (hl : ∀ x ∈ l, x.batch ≠ 0) : b ≠ 0 := by
  induction l generalizing b with
  | nil => cases h; decide
  | cons x rest ih =>
    rw [commonBatch_cons] at h
    cases hr : commonBatch rest with
    | none => rw [hr] at h; cases h
    | some r =>
      rw [hr] at h
      have := ih hr (fun y hy => hl y (List.mem_cons_of_mem _ hy))
      have := hl x (by simp)
      have := (comb_some h).1
      omega

theorem mk_bind_setBatch (l : List Nat) {b0 b : Nat} (h0 : b0 ≠ 0) (hle : b0 ≤ b) :
    (Spec.mk l b0).bind (fun s => Spec.setBatch s b) = Spec.mk l b := by
  unfold Spec.setBatch
  rw [mk_eq l b0, mk_eq l b]
  have hmul : prod l * b0 ≤ prod l * b := Nat.mul_le_mul_left _ hle
  split
  · rw [if_pos (by omega)]; rfl
  · rw [Option.bind_some, mk_eq]
    dsimp only
    rw [prod_trim, trim_trim]
    have := length_trim_le l
    exact ite_cond_congr (propext (by omega))

/-- The checks `concat` makes on the way are implied by the specification's last one. -/
theorem setDim_eq_none {t : SShape} {d m : Nat}
    (h : MAXU < m ∨ t.dimAt d ≤ m ∧ MAXU < prod t.dims * t.batch) : Spec.setDim t d m = none := by
  unfold Spec.setDim
  split
  · rfl
  · obtain ⟨q, hq1, hq2⟩ := prod_pad_set t.dims d
    show Spec.mk ((pad t.dims d).set d m) t.batch = none
    rw [mk_eq, hq2, if_pos]
    by_cases h0 : q * m = 0
    · exact .inr (.inl h0)
    by_cases hb : t.batch = 0
    · exact .inr (.inr (.inl hb))
    have hq : 0 < q := Nat.pos_of_mul_pos_right (Nat.pos_of_ne_zero h0)
    have h1 : m ≤ q * m := Nat.le_mul_of_pos_left _ hq
    have h2 : q * m ≤ q * m * t.batch := Nat.le_mul_of_pos_right _ (Nat.pos_of_ne_zero hb)
    have h3 : t.dimAt d ≤ m → prod t.dims * t.batch ≤ q * m * t.batch := fun hm => by
      rw [hq1, Nat.mul_comm _ q]
      exact Nat.mul_le_mul_right _ (Nat.mul_le_mul_left _ hm)
    womega

theorem setDim_bind_setBatch (t : SShape) (d m : Nat) {b : Nat} (h0 : t.batch ≠ 0) (hle : t.batch ≤ b) :
    (Spec.setDim t d m).bind (fun s => Spec.setBatch s b) = Spec.setDim ⟨t.dims, b⟩ d m := by
  unfold Spec.setDim
  split
  · rfl
  · exact mk_bind_setBatch _ h0 hle

theorem hasCompatibleBatch_iff (a b : Shape) :
    a.hasCompatibleBatch b = true ↔ a.batch = b.batch ∨ a.batch = 1 ∨ b.batch = 1 := by
  simp [Shape.hasCompatibleBatch, or_assoc]

namespace ShapeOps
open Shape

theorem concatLoop_eq (d : Nat) (rest : List Shape) (hrest : ∀ s ∈ rest, s.Canonical)
    (s0 : Shape) (h0 : s0.Canonical) (sum : Nat) :
    concatLoop d rest (s0, sum) =
      if rest.all (fun s => Spec.sameLoo (toSpec s0) (toSpec s) d) = false then throwError else
      match (commonBatch (rest.map toSpec)).bind (comb s0.batch) with
      | none => throwError
      | some b => if s0.volume * b > MAXU then throwError
                  else pure ({ s0 with batch := b }, sum + lsum (rest.map (·.get d))) := by
  induction rest generalizing s0 sum with
  | nil =>
    have := h0.bound
    simp only [concatLoop, List.all_nil, List.map_nil, commonBatch, Option.bind_some, comb_one, lsum_nil,
      Nat.add_zero]
    rw [if_neg (by simp), if_neg (by omega)]
  | cons s rest ih =>
    have hs := hrest s (by simp)
    have hr : ∀ t ∈ rest, t.Canonical := fun t ht => hrest t (List.mem_cons_of_mem _ ht)
    simp only [concatLoop, hasSameLooDims_eq h0.trimmed hs.trimmed, List.all_cons, List.map_cons,
      commonBatch_cons, comb_merge, lsum_cons, toSpec_batch, ← Nat.add_assoc, pure_bind]
    by_cases hl : Spec.sameLoo (toSpec s0) (toSpec s) d = true
    case neg => simp [hl]
    by_cases hc : s0.hasCompatibleBatch s = true
    case neg => simp [hl, hc, mt (hasCompatibleBatch_iff s0 s).2 hc]
    simp only [hl, hc, (hasCompatibleBatch_iff s0 s).1 hc, Bool.not_true, Bool.or_self, Bool.false_eq_true,
      if_false, if_true, Bool.true_and]
    by_cases hb1 : s0.batch = 1
    · -- the code adopts the batch of `s`
      rw [if_pos (by simp [hasBatch, hb1]), if_pos hb1]
      unfold updateBatch
      rw [if_neg hs.batch_ne]
      by_cases hv : s0.volume * s.batch > MAXU
      · -- too large already: the common batch, if there is one, is this one
        rw [if_pos hv]
        show throwError = _
        split
        · rfl
        · split
          · rfl
          · rename_i b hb
            obtain ⟨r, _, hb⟩ := Option.bind_eq_some_iff.1 hb
            have : b = s.batch := (comb_some hb).2.resolve_left fun e => by
              rw [e] at hv; have := h0.vol_lt; womega
            rw [this, if_pos hv]
      · rw [if_neg hv]
        exact ih hr _ (h0.withBatch hs.batch_ne (by omega)) _
    · rw [if_neg (by have := h0.batch_ne; simp [hasBatch]; omega), if_neg hb1]
      exact ih hr _ h0 _

theorem concat_agree (xs : List Shape) (hxs : ∀ s ∈ xs, s.Canonical) (d : Nat) :
    Agree (concat xs d) (Spec.concat (xs.map toSpec) d) := by
  cases xs with
  | nil => exact Agree.error
  | cons x0 rest =>
    have h0 := hxs x0 (by simp)
    have hr : ∀ t ∈ rest, t.Canonical := fun t ht => hxs t (List.mem_cons_of_mem _ ht)
    simp only [concat, Spec.concat, List.map_cons, concatLoop_eq d rest hr x0 h0, commonBatch_cons,
      List.all_map, List.map_map, Function.comp_def, toSpec_batch, toSpec_dimAt, ← lsum.eq_1, lsum_cons]
    by_cases ha : rest.all (fun s => Spec.sameLoo (toSpec x0) (toSpec s) d) = false
    · rw [if_pos ha, if_pos (by simp [ha])]; exact Agree.error
    rw [if_neg ha, if_neg (by simpa using ha)]
    cases hcb : (commonBatch (rest.map toSpec)).bind (comb x0.batch) with
    | none => exact Agree.error
    | some b =>
      obtain ⟨r, hr', hb⟩ := Option.bind_eq_some_iff.1 hcb
      have hb0 : b ≠ 0 := by
        have := commonBatch_ne_zero hr' (by
          intro x hx; obtain ⟨t, ht, rfl⟩ := List.mem_map.1 hx; exact (hr t ht).batch_ne)
        have := (comb_some hb).1; have := h0.batch_ne; omega
      have hle : x0.batch ≤ b := by have := (comb_some hb).2; omega
      generalize hT : x0.get d + lsum (rest.map (·.get d)) = total
      have hge : x0.get d ≤ total := by omega
      simp only [Option.bind_eq_bind, Option.bind_some]
      rw [setDim_bind_setBatch _ _ _ h0.batch_ne hle]
      by_cases hv : x0.volume * b > MAXU
      · rw [if_pos hv, setDim_eq_none (.inr ⟨hge, h0.vol ▸ hv⟩)]; exact Agree.error
      · rw [if_neg hv]
        exact Agree.guard (fun ht => setDim_eq_none (.inl ht)) fun _ =>
          updateDim_agree (h0.withBatch hb0 (by omega)) _ _

theorem batchConcatLoop_eq (s0 : Shape) (rest : List Shape) (sum : Nat) :
    batchConcatLoop s0 rest sum =
      if rest.all (fun s => s.dims == s0.dims) = false then throwError
      else pure (sum + lsum (rest.map (·.batch))) := by
  induction rest generalizing sum with
  | nil => simp [batchConcatLoop]
  | cons s rest ih =>
    simp only [batchConcatLoop, List.all_cons, List.map_cons, lsum_cons, ← Nat.add_assoc]
    by_cases h : s0.hasSameDims s = true
    · rw [if_neg (by simp [h]), ih, beq_iff_eq.2 ((hasSameDims_iff _ _).1 h).symm, Bool.true_and]
    · rw [if_pos (by simpa using h), beq_eq_false_iff_ne.2 fun e => h ((hasSameDims_iff _ _).2 e.symm),
        Bool.false_and, if_pos rfl]

theorem batchConcat_agree (xs : List Shape) (hxs : ∀ s ∈ xs, s.Canonical) :
    Agree (batchConcat xs) (Spec.batchConcat (xs.map toSpec)) := by
  cases xs with
  | nil => exact Agree.error
  | cons x0 rest =>
    have h0 := hxs x0 (by simp)
    simp only [batchConcat, Spec.batchConcat, List.map_cons, batchConcatLoop_eq, List.all_map, List.map_map,
      Function.comp_def, toSpec_batch, toSpec_dims, ← lsum.eq_1, lsum_cons]
    by_cases ha : rest.all (fun s => s.dims == x0.dims) = false
    · rw [if_pos ha, if_pos (by simp [ha])]; exact Agree.error
    rw [if_neg ha, if_neg (by simpa using ha)]
    refine Agree.guard (fun ht => ?_) fun _ => updateBatch_agree h0 _
    -- a batch beyond 32 bits: the specification's element count is at least as large
    have hv := h0.vol_pos
    have := Nat.le_mul_of_pos_left (x0.batch + lsum (rest.map (·.batch))) hv
    rw [h0.vol] at this hv
    show Spec.mk x0.dims _ = none
    rw [mk_eq, if_pos (by womega)]

end ShapeOps

end Primitiv
