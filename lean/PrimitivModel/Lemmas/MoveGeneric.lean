import PrimitivModel.Lemmas.View3
/-
The loop combinators of Model/KernelsMove.lean run a loop nest only after
checking, executably, that every index is in bounds and every output element is
written.  Here those checks become propositions about the nest (`InBounds`,
`WritesAll`, `WritesOnce`), an `ok` outcome of a combinator is traded for them
and back, and `scatterSet` is evaluated at an element written once.
`writes_of_coords` gives the two write properties of a nest whose destination
index is a bijection of coordinates; `Folds` is the minibatch folding of a
backward nest; `bind_ok`, `ite_ok` read a `do` block backwards from its result.
-/
namespace Primitiv.Move
open Primitiv.View3

theorem bind_ok {α β} {x : R α} {f : α → R β} {b : β} : x >>= f = .ok b ↔ ∃ a, x = .ok a ∧ f a = .ok b := by
  cases x with
  | error e => exact ⟨nofun, nofun⟩
  | ok a => exact ⟨fun h => ⟨a, rfl, h⟩, fun ⟨_, h, hf⟩ => by cases h; exact hf⟩

theorem bind_error {α β} {x : R α} {f : α → R β} {e : Err} (h : x >>= f = .error e) :
    x = .error e ∨ ∃ a, x = .ok a ∧ f a = .error e := by
  cases x with
  | error e' => cases h; exact Or.inl rfl
  | ok a => exact Or.inr ⟨a, rfl, h⟩

theorem ite_ok {α} {c : Prop} [Decidable c] {e : Err} {k : R α} {b : α}
    (h : (if c then .error e else k) = .ok b) : ¬ c ∧ k = .ok b := by
  split at h
  · cases h
  · exact ⟨‹_›, h⟩

theorem eq_true_of_not_bnot {b : Bool} (h : ¬ (!b) = true) : b = true := by simpa using h

theorem checkDevice_ok {α} {x : Tensor α} (h : x.loc = .here) : checkDevice x = .ok () := by
  unfold checkDevice; rw [if_pos h]; rfl

theorem checkDevice_inv {α} {x : Tensor α} {u : Unit} (h : checkDevice x = .ok u) : x.loc = .here := by
  unfold checkDevice at h
  split at h
  · assumption
  · cases h

def Moves.InBounds (m : Moves) (srcSize dstSize : Nat) : Prop :=
  ∀ t, t < m.count → m.sidx t < srcSize ∧ m.didx t < dstSize

def Moves.WritesAll (m : Moves) (dstSize : Nat) : Prop :=
  ∀ o, o < dstSize → ∃ t, t < m.count ∧ m.didx t = o

def Moves.WritesOnce (m : Moves) : Prop :=
  ∀ t t', t < m.count → t' < m.count → m.didx t = m.didx t' → t = t'

/-- The minibatch loop around a kernel: `m` runs the `K` steps of `m1 b` for each sample `b < B` in turn,
reading sample `b` of a source with `Vy` elements per sample. -/
structure Folds (m : Moves) (m1 : Nat → Moves) (B K Vy : Nat) : Prop where
  count : m.count = B * K
  count1 : ∀ b, b < B → (m1 b).count = K
  didx : ∀ t0 b, t0 < K → b < B → m.didx (t0 + K * b) = (m1 b).didx t0
  sidx : ∀ t0 b, t0 < K → b < B → m.sidx (t0 + K * b) = (m1 b).sidx t0 + Vy * b

def Reduce.InBounds (r : Reduce) (srcSize : Nat) : Prop :=
  ∀ i j, i < r.rep → j < r.n → r.off i j < srcSize

theorem allBelow_iff {f : Nat → Nat} {n b : Nat} : allBelow f n b = true ↔ ∀ t, t < n → f t < b := by
  simp [allBelow, List.all_eq_true]

theorem coversAll_iff {f : Nat → Nat} {n size : Nat} :
    coversAll f n size = true ↔ ∀ o, o < size → ∃ t, t < n ∧ f t = o := by
  simp [coversAll, List.all_eq_true, List.any_eq_true]

theorem Moves.inBounds_iff {m : Moves} {a b : Nat} : m.inBounds a b = true ↔ m.InBounds a b := by
  simp only [Moves.inBounds, Bool.and_eq_true, allBelow_iff, Moves.InBounds, imp_and, forall_and]

theorem Moves.swap_inBounds {m : Moves} {a b : Nat} (h : m.InBounds a b) : m.swap.InBounds b a :=
  fun t ht => ⟨(h t ht).2, (h t ht).1⟩

theorem Reduce.inBounds_iff {r : Reduce} {a : Nat} : r.inBounds a = true ↔ r.InBounds a := by
  simp only [Reduce.inBounds, List.all_eq_true, List.mem_range, allBelow_iff, Reduce.InBounds]
  exact ⟨fun h i j hi hj => h i hi j hj, fun h i hi j hj => h i j hi hj⟩

/-- the kernels that write through `*dest++` -/
theorem writesAll_of_id {m : Moves} {size : Nat} (hd : ∀ t, m.didx t = t) (hc : m.count = size) :
    m.WritesAll size ∧ m.WritesOnce := by
  constructor
  · intro o ho; exact ⟨o, by omega, hd o⟩
  · intro t t' _ _ h; rwa [hd, hd] at h

theorem writes_of_coords {m : Moves} {L n R : Nat} {T : Nat → Nat → Nat → Nat}
    (hT : ∀ {a k c}, a < L → k < n → c < R → T a k c < m.count ∧ m.didx (T a k c) = comp3 L n a k c)
    (hall : ∀ t, t < m.count → ∃ a k c, a < L ∧ k < n ∧ c < R ∧ T a k c = t) :
    m.WritesAll (L * n * R) ∧ m.WritesOnce := by
  constructor
  · intro o ho
    obtain ⟨a, k, c, ha, hk, hc, rfl⟩ := exists_comp3 ho
    exact ⟨_, hT ha hk hc⟩
  · intro t t' ht ht' e
    obtain ⟨a, k, c, ha, hk, hc, rfl⟩ := hall t ht
    obtain ⟨a', k', c', ha', hk', hc', rfl⟩ := hall t' ht'
    rw [(hT ha hk hc).2, (hT ha' hk' hc').2] at e
    obtain ⟨rfl, rfl, rfl⟩ := comp3_inj ha hk ha' hk' e
    rfl

theorem scatterSet_untouched {α} (d s : Nat → Nat) (src dest : Nat → α) (n j : Nat)
    (h : ∀ t, t < n → d t ≠ j) : scatterSet d s src n dest j = dest j := by
  induction n with
  | zero => rfl
  | succ n ih =>
    simp only [scatterSet]
    rw [if_neg (fun e => h n (by omega) e.symm)]
    exact ih (fun t ht => h t (by omega))

theorem scatterSet_at {α} (d s : Nat → Nat) (src dest : Nat → α) (n t : Nat) (ht : t < n)
    (h : ∀ t', t < t' → t' < n → d t' ≠ d t) : scatterSet d s src n dest (d t) = src (s t) := by
  induction n with
  | zero => omega
  | succ n ih =>
    simp only [scatterSet]
    by_cases e : t = n
    · subst e; simp
    · rw [if_neg (fun e' => h n (by omega) (by omega) e'.symm)]
      exact ih (by omega) (fun t' h1 h2 => h t' h1 (by omega))

theorem scatterSet_of_once {α} {m : Moves} (hon : m.WritesOnce) (src dest : Nat → α) {t : Nat} (ht : t < m.count) :
    scatterSet m.didx m.sidx src m.count dest (m.didx t) = src (m.sidx t) :=
  scatterSet_at _ _ _ _ _ _ ht (fun t' h1 h2 e => by have := hon t' t h2 ht e; omega)

theorem runSet_ok {α} {m : Moves} {src : Nat → α} {n : Nat} {ys : Shape} {raw : Nat → α}
    (hb : m.InBounds n ys.size) (hw : m.WritesAll ys.size) :
    runSet m src n ys raw = .ok ⟨ys, scatterSet m.didx m.sidx src m.count raw, .here⟩ := by
  unfold runSet
  rw [Moves.inBounds_iff.mpr hb, coversAll_iff.mpr hw]; rfl

theorem runSet_inv {α} {m : Moves} {src : Nat → α} {n : Nat} {ys : Shape} {raw : Nat → α} {y : Tensor α}
    (h : runSet m src n ys raw = .ok y) :
    m.InBounds n ys.size ∧ m.WritesAll ys.size ∧ y = ⟨ys, scatterSet m.didx m.sidx src m.count raw, .here⟩ := by
  unfold runSet at h
  have ⟨h1, h⟩ := ite_ok h
  have ⟨h2, h⟩ := ite_ok h
  exact ⟨Moves.inBounds_iff.mp (eq_true_of_not_bnot h1), coversAll_iff.mp (eq_true_of_not_bnot h2), (Except.ok.inj h).symm⟩

theorem runAdd_ok {α} [Add α] {m : Moves} {gy gx : Tensor α} (hb : m.InBounds gy.shape.size gx.shape.size) :
    runAdd m gy gx = .ok ⟨gx.shape, scatterAdd m.didx m.sidx gy.data m.count gx.data, .here⟩ := by
  unfold runAdd
  rw [Moves.inBounds_iff.mpr hb]; rfl

theorem runAdd_inv {α} [Add α] {m : Moves} {gy gx y : Tensor α} (h : runAdd m gy gx = .ok y) :
    m.InBounds gy.shape.size gx.shape.size ∧
    y = ⟨gx.shape, scatterAdd m.didx m.sidx gy.data m.count gx.data, .here⟩ := by
  unfold runAdd at h
  have ⟨h1, h⟩ := ite_ok h
  exact ⟨Moves.inBounds_iff.mp (eq_true_of_not_bnot h1), (Except.ok.inj h).symm⟩

theorem runReduce_ok {α} {r : Reduce} {x : Tensor α} {ys : Shape} {f : (Nat → α) → (Nat → Nat) → Nat → α}
    (hb : r.InBounds x.shape.size) (hr : r.rep = ys.size) :
    runReduce r x ys f = .ok ⟨ys, fun i => f x.data (r.off i) r.n, .here⟩ := by
  unfold runReduce
  rw [Reduce.inBounds_iff.mpr hb, if_neg (by simp), if_neg (not_not.mpr hr)]; rfl

theorem runReduce_inv {α} {r : Reduce} {x y : Tensor α} {ys : Shape} {f : (Nat → α) → (Nat → Nat) → Nat → α}
    (h : runReduce r x ys f = .ok y) :
    r.InBounds x.shape.size ∧ r.rep = ys.size ∧ y = ⟨ys, fun i => f x.data (r.off i) r.n, .here⟩ := by
  unfold runReduce at h
  have ⟨h1, h⟩ := ite_ok h
  have ⟨h2, h⟩ := ite_ok h
  exact ⟨Reduce.inBounds_iff.mp (eq_true_of_not_bnot h1), not_not.mp h2, (Except.ok.inj h).symm⟩

theorem runSetMany_inv_cons {α} {ys : Shape} {m : Moves} {x : Tensor α} {rest : List (Moves × Tensor α)}
    {acc d : Nat → α} (h : runSetMany ys ((m, x) :: rest) acc = .ok d) :
    m.InBounds x.shape.size ys.size ∧ runSetMany ys rest (scatterSet m.didx m.sidx x.data m.count acc) = .ok d := by
  have ⟨h1, h⟩ := ite_ok h
  exact ⟨Moves.inBounds_iff.mp (eq_true_of_not_bnot h1), h⟩

theorem runSetMany_bounds {α} {ys : Shape} (l : List (Moves × Tensor α)) {acc d : Nat → α}
    (h : runSetMany ys l acc = .ok d) : ∀ e ∈ l, e.1.InBounds e.2.shape.size ys.size := by
  induction l generalizing acc with
  | nil => intro e he; cases he
  | cons hd tl ih =>
    obtain ⟨m, x⟩ := hd
    have ⟨h1, h2⟩ := runSetMany_inv_cons h
    intro e he
    rcases List.mem_cons.mp he with rfl | he'
    · exact h1
    · exact ih h2 e he'

theorem runSetMany_ok {α} {ys : Shape} (l : List (Moves × Tensor α)) (acc : Nat → α)
    (hb : ∀ e ∈ l, e.1.InBounds e.2.shape.size ys.size) : ∃ d, runSetMany ys l acc = .ok d := by
  induction l generalizing acc with
  | nil => exact ⟨acc, rfl⟩
  | cons hd tl ih =>
    obtain ⟨m, x⟩ := hd
    simp only [runSetMany]
    rw [Moves.inBounds_iff.mpr (hb (m, x) (List.mem_cons_self))]
    simp only [Bool.not_true, Bool.false_eq_true, if_false]
    exact ih _ (fun e he => hb e (List.mem_cons_of_mem _ he))

theorem runSetMany_untouched {α} {ys : Shape} (l : List (Moves × Tensor α)) {acc d : Nat → α}
    (h : runSetMany ys l acc = .ok d) (o : Nat) (hno : ∀ e ∈ l, ∀ t, t < e.1.count → e.1.didx t ≠ o) : d o = acc o := by
  induction l generalizing acc with
  | nil => simp only [runSetMany, pure, Except.pure, Except.ok.injEq] at h; rw [← h]
  | cons hd tl ih =>
    obtain ⟨m, x⟩ := hd
    have ⟨_, h2⟩ := runSetMany_inv_cons h
    rw [ih h2 (fun e he => hno e (List.mem_cons_of_mem _ he))]
    exact scatterSet_untouched _ _ _ _ _ _ (fun t ht => hno (m, x) List.mem_cons_self t ht)

theorem runSetMany_at {α} {ys : Shape} (l : List (Moves × Tensor α)) {acc d : Nat → α}
    (h : runSetMany ys l acc = .ok d) (p : Nat) (hp : p < l.length) (t : Nat) (ht : t < l[p].1.count)
    (hin : ∀ t', t < t' → t' < l[p].1.count → l[p].1.didx t' ≠ l[p].1.didx t)
    (hlater : ∀ p' (hp' : p' < l.length), p < p' → ∀ t', t' < l[p'].1.count → l[p'].1.didx t' ≠ l[p].1.didx t) :
    d (l[p].1.didx t) = l[p].2.data (l[p].1.sidx t) := by
  induction l generalizing acc p with
  | nil => simp at hp
  | cons hd tl ih =>
    obtain ⟨m, x⟩ := hd
    have ⟨_, h2⟩ := runSetMany_inv_cons h
    cases p with
    | zero =>
      simp only [List.getElem_cons_zero] at ht hin hlater ⊢
      rw [runSetMany_untouched tl h2]
      · exact scatterSet_at _ _ _ _ _ _ ht hin
      · intro e he t' ht'
        obtain ⟨q, hq, rfl⟩ := List.getElem_of_mem he
        have := hlater (q + 1) (by simp; omega) (by omega) t' (by simpa using ht')
        simpa using this
    | succ p =>
      simp only [List.getElem_cons_succ] at ht hin hlater ⊢
      refine ih h2 p (by simpa using hp) ht hin ?_
      intro p' hp' hlt t' ht'
      have := hlater (p' + 1) (by simp; omega) (by omega) t' (by simpa using ht')
      simpa using this

theorem manyCover_iff {ms : List Moves} {size : Nat} :
    manyCover ms size = true ↔ ∀ o, o < size → ∃ m ∈ ms, ∃ t, t < m.count ∧ m.didx t = o := by
  simp [manyCover, List.all_eq_true, List.any_eq_true]

end Primitiv.Move
