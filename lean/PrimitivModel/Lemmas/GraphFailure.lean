import PrimitivModel.Lemmas.GraphForward
/-
Failures of `forward` (Props/C10), on top of Lemmas/GraphForward.lean.  The fault schedule `State.failIn`
counts down over the schedulable operators a request evaluates (`FailEvol`).  Every stored value stays what
its operator computes from the current values of its arguments (`Consistent`) under every operation but a
parameter update.  A failing request stores nothing for the failing operator, and after an attempt under any
schedule the request repeated with the schedule emptied is the run that never failed, random sources
included (`Run.resume`; C10 reads `retry_exact`).  Core Lean only.
-/
namespace Primitiv.Graph
variable {τ : Type}

def State.isFaulty (s : State τ) (k : Nat) : Bool :=
  match s.ops[k]? with
  | some o => o.kind.faulty
  | none => false

theorem Ext.isFaulty {s s' : State τ} {l : List Nat} (h : Ext s s' l) : s'.isFaulty = s.isFaulty :=
  funext (view_match h.shape (fun k _ => k.faulty) false)

/-- How the fault schedule evolves over a call that ran the forward of `m` schedulable operators
successfully (those it logged).  With `some k` scheduled a successful call has counted down by `m ≤ k`.  A
failed call hit the scheduled failure (exactly `k` forwards succeeded before it, the schedule is now empty),
or an operator threw by itself: one the schedule does not apply to (no tick: `k - m`), or a schedulable one
whose own `fwd` returned `none`, which ticked the counter but is not logged, hence not counted in `m`
(`k - m - 1`, cf. `FailEvol.tick`). -/
def FailEvol (fi : Option Nat) (m : Nat) (ok : Bool) (fi' : Option Nat) : Prop :=
  match fi with
  | none => fi' = none
  | some k =>
    if ok then m ≤ k ∧ fi' = some (k - m)
    else (m = k ∧ fi' = none) ∨ (m ≤ k ∧ fi' = some (k - m)) ∨ (m < k ∧ fi' = some (k - m - 1))

theorem FailEvol.zero (fi : Option Nat) : FailEvol fi 0 true fi := by
  cases fi <;> simp [FailEvol]

theorem FailEvol.trans {fi fi1 fi2 : Option Nat} {m1 m2 : Nat} {b : Bool}
    (h1 : FailEvol fi m1 true fi1) (h2 : FailEvol fi1 m2 b fi2) : FailEvol fi (m1 + m2) b fi2 := by
  cases fi with
  | none =>
    simp only [FailEvol] at h1 ⊢
    subst h1
    simpa [FailEvol] using h2
  | some k =>
    simp only [FailEvol, if_true] at h1 ⊢
    obtain ⟨hm, rfl⟩ := h1
    simp only [FailEvol] at h2
    cases b with
    | true =>
      simp only [if_true] at h2 ⊢
      refine ⟨by omega, ?_⟩
      rw [h2.2]; congr 1; omega
    | false =>
      simp only [Bool.false_eq_true, if_false] at h2 ⊢
      rcases h2 with ⟨h, rfl⟩ | ⟨h, rfl⟩ | ⟨h, rfl⟩
      · exact .inl ⟨by omega, rfl⟩
      · exact .inr (.inl ⟨by omega, by congr 1; omega⟩)
      · exact .inr (.inr ⟨by omega, by congr 1; omega⟩)

def isOk {α : Type} : Except Err α → Bool
  | .ok _ => true
  | .error _ => false

theorem storeValues_failIn (s : State τ) (k : Nat) (ys : List τ) : (s.storeValues k ys).failIn = s.failIn := by
  unfold State.storeValues; split <;> rfl

/-- one schedulable forward that does not hit the scheduled failure counts the schedule down by one,
whether it then succeeds or throws by itself -/
theorem FailEvol.tick (fi : Option Nat) (f : Bool) (h : ¬(f = true ∧ fi = some 0)) :
    FailEvol fi (if f = true then 1 else 0) true (if f = true then fi.map (· - 1) else fi) ∧
    FailEvol fi 0 false (if f = true then fi.map (· - 1) else fi) := by
  cases f with
  | false => cases fi <;> simp [FailEvol]
  | true =>
    cases fi with
    | none => simp [FailEvol]
    | some k =>
      have : k ≠ 0 := fun hk => h ⟨rfl, by rw [hk]⟩
      simp [FailEvol]; omega

theorem evalSelf_failEvol {s1 : State τ} {a : Addr} {o : OpInfo τ} {n : NodeInfo τ} {xs : List τ}
    (u : Unevaluated s1 a o n) :
    ∃ l2, (evalSelf o.kind n a s1 xs).1.log = s1.log ++ l2 ∧
      FailEvol s1.failIn (l2.countP s1.isFaulty) (isOk (evalSelf o.kind n a s1 xs).2)
        (evalSelf o.kind n a s1 xs).1.failIn := by
  have hfa : s1.isFaulty a.oid = o.kind.faulty := by simp [State.isFaulty, u.op]
  unfold evalSelf
  rw [u.idx]
  split
  · rename_i hfire
    exact ⟨[], by simp [State.clr], by simp [FailEvol, hfire.2, isOk, State.clr]⟩
  · rename_i hfire
    obtain ⟨hok, herr⟩ := FailEvol.tick s1.failIn o.kind.faulty hfire
    cases hy : o.kind.yield s1 n xs with
    | none => exact ⟨[], by simp [State.tick], herr⟩
    | some ys =>
      have hvid : a.vid < ys.length := Nat.lt_of_lt_of_le (List.getElem?_eq_some_iff.1 u.node).1
        ((u.wf.kind_ok _ o u.op).le_of_yield hy)
      refine ⟨[a.oid], by simp [State.commit, storeValues_log, State.tick], ?_⟩
      simp only [List.getElem?_eq_getElem hvid, isOk, List.countP_singleton, hfa, State.commit,
        storeValues_failIn]
      exact hok

theorem isOk_map {α β : Type} (f : α → β) (r : Except Err α) : isOk (r.map f) = isOk r := by cases r <;> rfl

theorem failEvol_trans {s s1 s2 : State τ} {b : Bool} (hf : s1.isFaulty = s.isFaulty)
    (h1 : ∃ l, s1.log = s.log ++ l ∧ FailEvol s.failIn (l.countP s.isFaulty) true s1.failIn)
    (h2 : ∃ l, s2.log = s1.log ++ l ∧ FailEvol s1.failIn (l.countP s1.isFaulty) b s2.failIn) :
    ∃ l, s2.log = s.log ++ l ∧ FailEvol s.failIn (l.countP s.isFaulty) b s2.failIn := by
  obtain ⟨l1, hl1, fe1⟩ := h1
  obtain ⟨l2, hl2, fe2⟩ := h2
  rw [hf] at fe2
  refine ⟨l1 ++ l2, by rw [hl2, hl1, List.append_assoc], ?_⟩
  rw [List.countP_append]
  exact fe1.trans fe2

theorem Run.failEvol {s s' : State τ} {bs : List Addr} {r : Except Err (List τ)} (h : Run s bs s' r) :
    ∃ l, s'.log = s.log ++ l ∧ FailEvol s.failIn (l.countP s.isFaulty) (isOk r) s'.failIn := by
  induction h with
  | nil => exact ⟨[], by simp, FailEvol.zero _⟩
  | stored _ _ _ _ ih => rw [isOk_map]; exact ih
  | argsFail _ _ _ ih => exact ih
  | @selfFail s s1 s2 b rest o n xs e u r1 u1 _ he ih =>
    obtain ⟨l, e1⟩ := r1.ext
    have fe2 := evalSelf_failEvol (xs := xs) u1
    rw [he] at fe2
    exact failEvol_trans e1.isFaulty ih fe2
  | @eval s s1 s2 s3 b rest o n xs v r u r1 u1 hxs he r3 ih1 ih2 =>
    obtain ⟨l, e1⟩ := r1.ext
    obtain ⟨l', e12, -⟩ := evalSelf_after_args u r1.spec u1 hxs
    have fe2 := evalSelf_failEvol (xs := xs) u1
    rw [he] at fe2 e12
    rw [isOk_map]
    exact failEvol_trans e12.isFaulty (failEvol_trans e1.isFaulty ih1 fe2) ih2

theorem forward_failEvol (T : TOps τ) {s : State τ} (w : WF s) {a : Addr} (hv : s.validAddr a = true) :
    ∃ l, (forward T s a).1.log = s.log ++ l ∧
      FailEvol s.failIn (l.countP s.isFaulty) (isOk (forward T s a).2) (forward T s a).1.failIn := by
  have := (forward_run T w hv).failEvol
  rwa [isOk_map] at this

/-! ## Consistency: every stored value is what its operator computes from its arguments -/

def Consistent (s : State τ) : Prop := ∀ k, s.evaluated k → LocalEq s k

theorem Ext.consistent {s s' : State τ} {l : List Nat} (h : Ext s s' l) (c : Consistent s) : Consistent s' := by
  intro k hk
  by_cases hl : k ∈ l
  · exact h.loc k hl
  · rcases (h.evaluated k).1 hk with h1 | h1
    · exact LocalEq.mono h hl (c k h1)
    · exact absurd h1 hl

theorem SameVals.localEq {s s' : State τ} (h : SameVals s s') {k : Nat} (he : LocalEq s k) : LocalEq s' k := by
  intro o' ho'
  obtain ⟨o, ho, e1, e2, _, e4, _⟩ := skel_op h.symm.sameFrame.skel ho'
  obtain ⟨xs, hxs, hsem⟩ := he o ho
  refine ⟨xs, ?_, ?_⟩
  · rw [← e2, ← hxs]; exact mapM_congr (fun b _ => h.valueOf? b)
  · intro sem hk
    obtain ⟨ys, hys, hv⟩ := hsem sem (e1.trans hk)
    refine ⟨ys, hys, fun i n' hn' => ?_⟩
    have := map_value_getElem? e4 i
    rw [hn'] at this
    cases hn : o.rets[i]? with
    | none => simp [hn] at this
    | some n =>
      simp only [hn, Option.map_some, Option.some.injEq] at this
      rw [← this]; exact hv i n hn

theorem SameVals.consistent {s s' : State τ} (h : SameVals s s') (c : Consistent s) : Consistent s' :=
  fun k hk => h.localEq (c k ((h.evaluated k).1 hk))

theorem Consistent.push {s : State τ} (w : WF s) (c : Consistent s) {o : OpInfo τ}
    (hnone : ∀ n ∈ o.rets, n.value = none) : Consistent (s.push o) := by
  intro k hk o' ho'
  rw [evaluated_push hnone] at hk
  rcases push_getElem?_cases ho' with h | ⟨rfl, _⟩
  · obtain ⟨xs, hxs, hsem⟩ := c k hk o' h
    refine ⟨xs, ?_, hsem⟩
    rw [← hxs]
    apply mapM_congr
    intro b hb
    exact State.valueOf?_congr (s := s) (s' := s.push o)
      (push_getElem?_lt (validAddr_lt (w.args_lt k o' h b hb).2)) rfl
  · exact absurd (evaluated_lt hk) (Nat.lt_irrefl _)

theorem Consistent.of_ops_eq {s s' : State τ} (c : Consistent s) (h1 : s'.ops = s.ops)
    (h2 : s'.params = s.params) : Consistent s' := by
  have hv : s'.valueOf? = s.valueOf? := by funext a; simp [State.valueOf?, h1, h2]
  intro k hk o ho
  rw [h1] at ho
  have : s.evaluated k := by simpa [State.evaluated, h1] using hk
  rw [hv]
  exact c k this o ho

def Op.isUpdate : Op τ → Bool
  | .setParamValue _ _ => true
  | _ => false

theorem step_consistent (T : TOps τ) {s : State τ} (w : WF s) (c : Consistent s) {op : Op τ}
    (hup : op.isUpdate = false) : Consistent (step T s op) := by
  cases op with
  | addOperator kind args sizes =>
    simp only [step, addOperator_eq]
    by_cases hall : args.all s.validAddr = true
    · rw [if_pos hall]; exact c.push w (by simp [freshOp])
    · rw [if_neg hall]; exact c
  | forward a =>
    obtain ⟨l, e, _⟩ := forward_ext T a w
    exact e.consistent c
  | backward a =>
    obtain ⟨l, s1, e, _, sv⟩ := backward_ext T a w
    exact sv.consistent (e.consistent c)
  | setParamValue p v => simp [Op.isUpdate] at hup
  | setFail k => exact c.of_ops_eq rfl rfl

theorem run_consistent (T : TOps τ) {s : State τ} (w : WF s) (c : Consistent s) (h : List (Op τ))
    (hadm : ∀ op ∈ h, op.Admissible) (hup : ∀ op ∈ h, op.isUpdate = false) : Consistent (run T s h) := by
  induction h generalizing s with
  | nil => exact c
  | cons op rest ih =>
    exact ih (step_wf T w (hadm op List.mem_cons_self)) (step_consistent T w c (hup op List.mem_cons_self))
      (fun op' h' => hadm op' (List.mem_cons_of_mem _ h')) (fun op' h' => hup op' (List.mem_cons_of_mem _ h'))

theorem Consistent.empty (params : Params τ) (sample : Nat → Nat → τ) : Consistent (State.empty params sample) := by
  intro k hk
  simp [State.empty, State.evaluated] at hk

theorem forward_invalid (T : TOps τ) {s : State τ} {a : Addr} (h : s.validAddr a = false) :
    forward T s a = (s, .error .crash) := by
  simp [forward, h]

theorem backward_invalid (T : TOps τ) {s : State τ} {a : Addr} (h : s.validAddr a = false) :
    backward T s a = (s, .error .crash) := by
  simp [backward, h]

theorem backward_fwd_error (T : TOps τ) {s : State τ} {a : Addr} {n : NodeInfo τ} {e : Err}
    (hv : s.validAddr a = true) (hn : s.node? a = some n) (hval : n.value = none)
    (he : (forward T s a).2 = .error e) : backward T s a = ((forward T s a).1, .error e) := by
  rw [backward_eq, hv, fwdPhase_unevaluated T hn hval, he]
  rfl

theorem backward_memo (T : TOps τ) {s : State τ} {a : Addr} {n : NodeInfo τ} {v : τ}
    (hv : s.validAddr a = true) (hn : s.node? a = some n) (hval : n.value = some v) :
    backward T s a = sweep T (a.oid + 1) (seed T s a) := by
  rw [backward_eq, hv, fwdPhase_memo T hn hval]
  rfl

theorem backward_fwd_ok (T : TOps τ) {s : State τ} {a : Addr} {n : NodeInfo τ} {v : τ}
    (hv : s.validAddr a = true) (hn : s.node? a = some n) (hval : n.value = none)
    (hok : (forward T s a).2 = .ok v) :
    backward T s a = sweep T (a.oid + 1) (seed T (forward T s a).1 a) := by
  rw [backward_eq, hv, fwdPhase_unevaluated T hn hval, hok]
  rfl

/-! ## A failing forward stores nothing for the failing operator -/

theorem evalSelf_error_ops (kind : Kind τ) (n : NodeInfo τ) (a : Addr) (s1 : State τ) (xs : List τ) (e : Err)
    (h : (evalSelf kind n a s1 xs).2 = .error e) (hne : e ≠ .crash) : (evalSelf kind n a s1 xs).1.ops = s1.ops := by
  unfold evalSelf at h ⊢
  split
  · rfl
  · rename_i hfire
    rw [if_neg hfire] at h
    cases hy : kind.yield s1 n xs with
    | none => rfl
    | some ys =>
      rw [hy] at h
      simp only at h
      cases hv : ys[if kind.isRnd = true then 0 else a.vid]? with
      | some v => rw [hv] at h; cases h
      | none => rw [hv] at h; cases h; exact absurd rfl hne

theorem Run.error_ops {s s' : State τ} {bs : List Addr} {r : Except Err (List τ)} (h : Run s bs s' r) :
    ∀ a e, bs = [a] → r = .error e → s'.ops[a.oid]? = s.ops[a.oid]? := by
  cases h with
  | nil => intro a e hbs; cases hbs
  | @stored s s' b rest r v _ _ _ hr =>
    intro a e hbs he
    obtain ⟨rfl, rfl⟩ := List.cons.inj hbs
    cases hr; cases he
  | argsFail u _ u1 =>
    intro a e hbs _
    obtain ⟨rfl, -⟩ := List.cons.inj hbs
    rw [u1.op, u.op]
  | @selfFail s s1 s2 b rest o n xs e' u _ u1 hxs he =>
    intro a e hbs hr
    obtain ⟨rfl, -⟩ := List.cons.inj hbs
    obtain ⟨_, _, _, hnc, _⟩ := evalSelf_spec u1 hxs
    have := evalSelf_error_ops o.kind n b s1 xs e' (by rw [he]) (by intro hc; subst hc; exact hnc (by rw [he]))
    rw [he] at this
    rw [this, u1.op, u.op]
  | @eval s s1 s2 s3 b rest o n xs v r _ _ _ _ _ hr =>
    intro a e hbs he
    obtain ⟨rfl, rfl⟩ := List.cons.inj hbs
    cases hr; cases he

theorem forward_error_unevaluated (T : TOps τ) {s : State τ} (w : WF s) {a : Addr} (hv : s.validAddr a = true)
    {e : Err} (he : (forward T s a).2 = .error e) : (forward T s a).1.ops[a.oid]? = s.ops[a.oid]? :=
  (forward_run T w hv).error_ops a e rfl (by rw [he]; rfl)

/-! ## Exact resumption: the retry reproduces the clean run, random sources included -/

theorem clr_clr (s : State τ) : s.clr.clr = s.clr := rfl
theorem clr_storeValues (s : State τ) (k : Nat) (ys : List τ) :
    (s.storeValues k ys).clr = s.clr.storeValues k ys := by
  unfold State.storeValues
  show _ = match s.ops[k]? with | none => _ | some o => _
  cases s.ops[k]? <;> rfl

theorem clr_valueOf (s : State τ) : s.clr.valueOf? = s.valueOf? := rfl
theorem clr_validAddr (s : State τ) : s.clr.validAddr = s.validAddr := rfl

theorem Ext.unsetFailIn (s : State τ) (x : Option Nat) : Ext { s with failIn := x } s [] :=
  Ext.of_eq rfl rfl rfl rfl rfl

theorem WF.setFailIn {s : State τ} (w : WF s) (x : Option Nat) : WF { s with failIn := x } :=
  w.of_ops_eq rfl rfl rfl rfl

theorem WF.clr {s : State τ} (w : WF s) : WF s.clr := w.setFailIn none

theorem tick_clr (s : State τ) (kind : Kind τ) : (s.tick kind).clr = s.clr.tick kind := by
  cases hk : kind.faulty <;> simp [State.tick, State.clr, hk]

/-- `evalSelf` commutes with emptying the schedule, unless the scheduled failure fires -/
theorem evalSelf_clr (kind : Kind τ) (n : NodeInfo τ) (a : Addr) (tf : State τ) (xs : List τ) :
    evalSelf kind n a tf xs = (tf.clr, .error .error) ∨
    ((evalSelf kind n a tf xs).2 = (evalSelf kind n a tf.clr xs).2 ∧
      (evalSelf kind n a tf xs).1.clr = (evalSelf kind n a tf.clr xs).1) := by
  have hy : kind.yield tf.clr n xs = kind.yield tf n xs := by cases kind <;> rfl
  unfold evalSelf
  by_cases hfire : kind.faulty = true ∧ tf.failIn = some 0
  · left; rw [if_pos hfire]
  · right
    rw [if_neg hfire, if_neg (show ¬(kind.faulty = true ∧ tf.clr.failIn = some 0) by simp [State.clr]), hy]
    cases kind.yield tf n xs with
    | none => exact ⟨rfl, tick_clr tf kind⟩
    | some ys =>
      refine ⟨rfl, ?_⟩
      simp only [State.commit]
      rw [clr_storeValues, ← tick_clr]
      rfl

/-- resumption of a request `b :: rest` whose first node shows its value when `rest` is run -/
theorem resume_cons (T : TOps τ) {sm s' sc : State τ} {b : Addr} {rest : List Addr} {r : Except Err (List τ)}
    {v : τ} {xs' : List τ} {fuel : Nat} (hr : Run sm rest s' r) (hv : sm.validAddr b = true)
    (hval : sm.valueOf? b = some v) (hb : b.oid < fuel)
    (ih : forwardArgsWith (forwardRec T fuel) s'.clr rest = (sc, .ok xs') ∧ ∀ vs, r = .ok vs → vs = xs' ∧ s'.clr = sc) :
    forwardArgsWith (forwardRec T fuel) s'.clr (b :: rest) = (sc, .ok (v :: xs')) ∧
      ∀ vs, r.map (v :: ·) = .ok vs → vs = v :: xs' ∧ s'.clr = sc := by
  obtain ⟨l, e⟩ := hr.ext
  refine ⟨?_, fun vs h => ?_⟩
  · rw [forwardArgsWith_cons, forwardRec_stored T (s := s'.clr) (by rw [clr_validAddr, e.validAddr]; exact hv) hb
      (by rw [clr_valueOf]; exact e.valueOf_mono hval)]
    simp only [ih.1]
    rfl
  · cases r with
    | error e => cases h
    | ok vs' =>
      obtain rfl : v :: vs' = vs := Except.ok.inj h
      obtain ⟨rfl, h2⟩ := ih.2 vs' rfl
      exact ⟨rfl, h2⟩

/-- a call for `b :: rest`, `b` a node of an operator without values, depends on the state through the call
for the operator's arguments only -/
theorem Unevaluated.cons_congr (T : TOps τ) {s t t' : State τ} {b : Addr} {o : OpInfo τ} {n : NodeInfo τ}
    (u : Unevaluated s b o n) {f : Nat} {rest : List Addr}
    (h : forwardArgsWith (forwardRec T f) t o.args = forwardArgsWith (forwardRec T f) t' o.args)
    (ht : t.ops[b.oid]? = some o) (ht' : t'.ops[b.oid]? = some o) :
    forwardArgsWith (forwardRec T (f + 1)) t (b :: rest) = forwardArgsWith (forwardRec T (f + 1)) t' (b :: rest) := by
  have : forwardRec T (f + 1) t b = forwardRec T (f + 1) t' b := by
    rw [u.forwardRec_eq T f ht, u.forwardRec_eq T f ht', h]
  rw [forwardArgsWith_cons, forwardArgsWith_cons, this]

theorem forwardArgsWith_cons_ok {ev : State τ → Addr → State τ × Except Err τ} {s sc : State τ} {b : Addr}
    {rest : List Addr} {xs : List τ} (h : forwardArgsWith ev s (b :: rest) = (sc, .ok xs)) :
    ∃ s1 v xs', ev s b = (s1, .ok v) ∧ forwardArgsWith ev s1 rest = (sc, .ok xs') ∧ xs = v :: xs' := by
  rw [forwardArgsWith_cons] at h
  rcases hev : ev s b with ⟨s1, _ | v⟩ <;> rw [hev] at h <;> simp only at h
  · cases h
  · rcases hr : forwardArgsWith ev s1 rest with ⟨s2, _ | xs'⟩ <;> rw [hr] at h <;> cases h
    exact ⟨s1, v, xs', rfl, hr, rfl⟩

/-- a successful call for `b :: rest` splits into the calls for the arguments, the operator and `rest` -/
theorem Unevaluated.split (T : TOps τ) {s t sc : State τ} {b : Addr} {o : OpInfo τ} {n : NodeInfo τ}
    (u : Unevaluated s b o n) (ht : t.ops[b.oid]? = some o) {fuel : Nat} (hb : b.oid < fuel) {rest : List Addr}
    {xs : List τ} (h : forwardArgsWith (forwardRec T fuel) t (b :: rest) = (sc, .ok xs)) :
    ∃ f sa xa s2 v xs', fuel = f + 1 ∧ (∀ b' ∈ o.args, b'.oid < f) ∧
      forwardArgsWith (forwardRec T f) t o.args = (sa, .ok xa) ∧ evalSelf o.kind n b sa xa = (s2, .ok v) ∧
      forwardArgsWith (forwardRec T fuel) s2 rest = (sc, .ok xs') ∧ xs = v :: xs' := by
  obtain ⟨f, rfl, hargs⟩ := u.fuel hb
  obtain ⟨s2, v, xs', h1, h2, rfl⟩ := forwardArgsWith_cons_ok h
  rw [u.forwardRec_eq T f ht] at h1
  rcases hca : forwardArgsWith (forwardRec T f) t o.args with ⟨sa, _ | xa⟩ <;> rw [hca] at h1
  · cases h1
  · exact ⟨f, sa, xa, s2, v, xs', rfl, hargs, hca, h1, h2, rfl⟩

/-- **Exact resumption**, for runs.  Take an attempt from `tf` under any fault schedule and suppose that the
same request, run from `tf` with the schedule emptied, succeeds with the values `xs` in the state `sc`.
Then repeating the request from the state the attempt reached, schedule emptied, gives `xs` and `sc`; and
an attempt that got through differs from that run in the schedule only. -/
theorem Run.resume (T : TOps τ) {tf tf' : State τ} {bs : List Addr} {r : Except Err (List τ)} (h : Run tf bs tf' r) :
    ∀ fuel, (∀ b ∈ bs, b.oid < fuel) → ∀ sc xs, forwardArgsWith (forwardRec T fuel) tf.clr bs = (sc, .ok xs) →
      forwardArgsWith (forwardRec T fuel) tf'.clr bs = (sc, .ok xs) ∧ ∀ vs, r = .ok vs → vs = xs ∧ tf'.clr = sc := by
  induction h with
  | nil =>
    intro fuel _ sc xs hclean
    refine ⟨hclean, fun vs h => ?_⟩
    obtain ⟨rfl, h2⟩ := Prod.mk.inj hclean
    exact ⟨(Except.ok.inj h).symm.trans (Except.ok.inj h2), rfl⟩
  | @stored s s' b rest r v w hv hval hr ih =>
    intro fuel hlt sc xs hclean
    have hb := hlt b List.mem_cons_self
    obtain ⟨_, _, xs', h1, hc', rfl⟩ := forwardArgsWith_cons_ok hclean
    rw [forwardRec_stored T (s := s.clr) hv hb hval] at h1
    cases h1
    exact resume_cons T hr hv hval hb (ih fuel (fun b' hb' => hlt b' (List.mem_cons_of_mem _ hb')) sc xs' hc')
  | @argsFail s s1 b rest o n e u _ u1 ih =>
    intro fuel hlt sc xs hclean
    obtain ⟨f, sa, xa, _, _, _, rfl, hargs, hca, -⟩ := u.split T (t := s.clr) u.op (hlt b List.mem_cons_self) hclean
    -- the arguments are there now: the rest of the retry is the rest of the clean run
    exact ⟨(u.cons_congr T ((ih f hargs sa xa hca).1.trans hca.symm) u1.op u.op).trans hclean,
      fun vs h => by cases h⟩
  | @selfFail s s1 s2 b rest o n xs1 e u _ u1 hxs he ih =>
    intro fuel hlt sc xs hclean
    obtain ⟨f, sa, xa, s2c, v, _, rfl, hargs, hca, hce, -⟩ :=
      u.split T (t := s.clr) u.op (hlt b List.mem_cons_self) hclean
    obtain ⟨hB, hA⟩ := ih f hargs sa xa hca
    obtain ⟨rfl, rfl⟩ := hA xs1 rfl
    rcases evalSelf_clr o.kind n b s1 xs1 with hfired | ⟨hr, -⟩
    · -- the scheduled failure fired in the operator's own forward: the arguments are there
      obtain ⟨rfl, -⟩ := Prod.mk.inj (he.symm.trans hfired)
      exact ⟨(u.cons_congr T (hB.trans hca.symm) u1.op u.op).trans hclean,
        fun vs h => by cases h⟩
    · -- the operator threw by itself: so it does in the clean run
      rw [he, hce] at hr
      cases hr
  | @eval s s1 s2 s3 b rest o n xs1 v1 r u _ u1 hxs he hr3 ih1 ih2 =>
    intro fuel hlt sc xs hclean
    obtain ⟨f, sa, xa, s2c, v, xs', rfl, hargs, hca, hce, hc', rfl⟩ :=
      u.split T (t := s.clr) u.op (hlt b List.mem_cons_self) hclean
    obtain ⟨rfl, rfl⟩ := (ih1 f hargs sa xa hca).2 xs1 rfl
    rcases evalSelf_clr o.kind n b s1 xs1 with hfired | ⟨hr, hs⟩
    · cases he.symm.trans hfired
    · -- the operator's own forward is that of the clean run
      rw [he, hce] at hr hs
      cases hr
      cases hs
      obtain ⟨_, _, e2, _, ok2⟩ := evalSelf_spec u1 hxs
      rw [he] at e2 ok2
      exact resume_cons T hr3 (by rw [e2.validAddr]; exact u1.valid) (ok2 v1 rfl).1 (hlt b List.mem_cons_self)
        (ih2 (f + 1) (fun b' hb' => hlt b' (List.mem_cons_of_mem _ hb')) sc xs' hc')

/-- **Exact resumption.**  If `forward a` without a scheduled failure succeeds from `s`, then
after an attempt from `s` under *any* fault schedule, `forward a` with the schedule emptied
returns the same value and reaches the very same state (operators, values, log, stream position)
as the run that never failed — random sources included. -/
theorem forward_resume (T : TOps τ) {s : State τ} (w : WF s) {a : Addr} (hv : s.validAddr a = true)
    {sc : State τ} {v : τ} (hclean : forward T s.clr a = (sc, .ok v)) :
    forward T (forward T s a).1.clr a = (sc, .ok v) := by
  obtain ⟨l, e, _⟩ := forward_ext T a w
  have hfeq : ∀ {t : State τ}, t.validAddr a = true → forward T t a = forwardRec T (a.oid + 1) t a := by
    intro t ht; unfold forward; rw [if_pos ht]
  rw [hfeq (t := s.clr) hv] at hclean
  have := ((forward_run T w hv).resume T (a.oid + 1) (by simp) sc [v]
    (by rw [forwardArgsWith_singleton, hclean]; rfl)).1
  rw [forwardArgsWith_singleton] at this
  rw [hfeq (by rw [clr_validAddr, e.validAddr]; exact hv)]
  rcases hf : forwardRec T (a.oid + 1) (forward T s a).1.clr a with ⟨s', r'⟩
  rw [hf] at this
  obtain ⟨rfl, h2⟩ := Prod.mk.inj this
  cases r' with
  | error e => cases h2
  | ok v' => cases h2; rfl

/-! ## What the attempt and the retry have in common with the clean run -/

/-- after an attempt under the schedule `some k`, the retry is the run that never failed; `l1` and `l2`
are the operators that the attempt and the retry evaluated -/
theorem retry_exact (T : TOps τ) {s : State τ} (w : WF s) {a : Addr} (hv : s.validAddr a = true) (k : Nat)
    {v : τ} (hclean : (forward T { s with failIn := none } a).2 = .ok v) :
    forward T { (forward T { s with failIn := some k } a).1 with failIn := none } a =
      ((forward T { s with failIn := none } a).1, .ok v) ∧
    ∃ l1 l2, (forward T { s with failIn := some k } a).1.log = s.log ++ l1 ∧
      (forward T { s with failIn := none } a).1.log = s.log ++ l1 ++ l2 ∧ (s.log ++ l1 ++ l2).Nodup := by
  have wk : WF { s with failIn := some k } := w.setFailIn (some k)
  have hres : forward T { (forward T { s with failIn := some k } a).1 with failIn := none } a =
      ((forward T { s with failIn := none } a).1, .ok v) :=
    forward_resume T wk hv (Prod.ext rfl hclean)
  obtain ⟨l1, e1, _⟩ := forward_ext T a wk
  have w1 : WF { (forward T { s with failIn := some k } a).1 with failIn := none } := (e1.wf wk).setFailIn none
  obtain ⟨l2, e2, _⟩ := forward_ext T a w1
  have hnd := (e2.wf w1).log_nodup
  have hlog := e2.log
  rw [hres] at hnd hlog
  have hlog' : (forward T { s with failIn := none } a).1.log = s.log ++ l1 ++ l2 :=
    hlog.trans (congrArg (· ++ l2) e1.log)
  exact ⟨hres, l1, l2, e1.log, hlog', hlog' ▸ hnd⟩

/-- what a failed attempt followed by a retry has in common with a run that never failed -/
structure RetryClean (T : TOps τ) (s : State τ) (a : Addr) (k : Nat) (v : τ) : Prop where
  /-- the retry returns the value of the clean run -/
  value : (forward T { (forward T { s with failIn := some k } a).1 with failIn := none } a).2 = .ok v
  /-- … and reaches the same operators with the same values (and gradients) -/
  ops : (forward T { (forward T { s with failIn := some k } a).1 with failIn := none } a).1.ops =
    (forward T { s with failIn := none } a).1.ops
  params : (forward T { (forward T { s with failIn := some k } a).1 with failIn := none } a).1.params = s.params
  rndPos : (forward T { (forward T { s with failIn := some k } a).1 with failIn := none } a).1.rndPos = s.rndPos
  failIn : (forward T { (forward T { s with failIn := some k } a).1 with failIn := none } a).1.failIn = none
  /-- no operator is evaluated twice over the attempt and the retry -/
  log : ∃ l1 l2, (forward T { s with failIn := some k } a).1.log = s.log ++ l1 ∧
    (forward T { (forward T { s with failIn := some k } a).1 with failIn := none } a).1.log = s.log ++ l1 ++ l2 ∧
    (s.log ++ l1 ++ l2).Nodup ∧
    ∀ j, j ∈ l1 ++ l2 ↔ j ∈ (forward T { s with failIn := none } a).1.log ∧ j ∉ s.log

theorem retry_clean (T : TOps τ) {s : State τ} (w : WF s) {a : Addr} (hv : s.validAddr a = true) (k : Nat)
    {v : τ} (hclean : (forward T { s with failIn := none } a).2 = .ok v)
    (hdet : (forward T { s with failIn := none } a).1.rndPos = s.rndPos) : RetryClean T s a k v := by
  obtain ⟨hres, l1, l2, hl1, hl, hnd⟩ := retry_exact T w hv k hclean
  have wc : WF { s with failIn := none } := w.setFailIn none
  obtain ⟨lc, ec, _⟩ := forward_ext T a wc
  obtain ⟨_, _, hfi⟩ := forward_failEvol T wc hv
  refine ⟨by rw [hres], by rw [hres], ?_, ?_, ?_, l1, l2, hl1, ?_, hnd, fun j => ?_⟩
  · rw [hres]; exact ec.params
  · rw [hres]; exact hdet
  · rw [hres]; exact hfi
  · rw [hres]; exact hl
  · have hdis := (List.nodup_append.1 (List.append_assoc _ _ _ ▸ hnd)).2.2
    rw [hl, List.append_assoc]
    exact ⟨fun hj => ⟨List.mem_append_right _ hj, fun hs => hdis j hs j hj rfl⟩,
      fun ⟨hj, hns⟩ => (List.mem_append.1 hj).resolve_left hns⟩

/-- with random sources too the same operators are evaluated and the stream advances equally -/
theorem retry_same_set (T : TOps τ) {s : State τ} (w : WF s) {a : Addr} (hv : s.validAddr a = true) (k : Nat)
    {v v' : τ} (hclean : (forward T { s with failIn := none } a).2 = .ok v)
    (hretry : (forward T { (forward T { s with failIn := some k } a).1 with failIn := none } a).2 = .ok v') :
    ∃ l1 l2 lc, (forward T { s with failIn := some k } a).1.log = s.log ++ l1 ∧
      (forward T { (forward T { s with failIn := some k } a).1 with failIn := none } a).1.log = s.log ++ l1 ++ l2 ∧
      (forward T { s with failIn := none } a).1.log = s.log ++ lc ∧
      (s.log ++ l1 ++ l2).Nodup ∧ (l1 ++ l2).Perm lc ∧
      (forward T { (forward T { s with failIn := some k } a).1 with failIn := none } a).1.rndPos =
        (forward T { s with failIn := none } a).1.rndPos := by
  obtain ⟨hres, l1, l2, hl1, hl, hnd⟩ := retry_exact T w hv k hclean
  rw [hres]
  exact ⟨l1, l2, l1 ++ l2, hl1, hl, by rw [hl, List.append_assoc], hnd, List.Perm.refl _, rfl⟩

end Primitiv.Graph
