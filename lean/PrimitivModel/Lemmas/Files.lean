import PrimitivModel.Model.Files
import PrimitivModel.Lemmas.Msgpack
import PrimitivModel.Lemmas.Shape
/-
Laws of the file model (Model/Files.lean).  Each record reader (header, Shape,
Tensor, statistics, `load_inner`, the three `parse` functions) is a chain of
`bind`s over lawful codecs, so what it makes of a written record, and of a
record cut short, is one `Msgpack.Reads` statement obtained with `Reads.bind`;
round trip, truncation and the semantic rejections are read off it.  The loop
of `Model::load` by induction; what a failing load leaves behind.  A canonical
Shape (Lemmas/Shape.lean) is one the Shape reader returns unchanged.
Core Lean only.
-/
namespace Primitiv.Files
open Primitiv Primitiv.Msgpack

theorem reads_readHeader (dt : DataType) : Reads (readHeader dt) (writeHeader dt) (.ok ()) := by
  have ht : dt.tag < 4294967296 := by cases dt <;> decide
  unfold writeHeader
  rw [List.append_assoc]
  refine (lawful_nat32.reads (by decide)).bind ((lawful_nat32.reads (by decide)).bind ?_)
  simp only [ne_eq, not_true_eq_false, or_self, if_false]
  exact (lawful_nat32.reads ht).bind_ret fun _ => if_neg fun h => h rfl

theorem readHeader_bad (dt : DataType) (major minor tag : Nat) (rest : Bytes)
    (hM : major < 4294967296) (hm : minor < 4294967296) (ht : tag < 4294967296)
    (hbad : major ≠ versionMajor ∨ minor ≠ versionMinor ∨ tag ≠ dt.tag) :
    readHeader dt (nat32.enc major ++ nat32.enc minor ++ nat32.enc tag ++ rest) = .error .invalid := by
  simp only [readHeader, List.append_assoc]
  rw [lawful_nat32.roundtrip major _ hM, Res.bind_ok, lawful_nat32.roundtrip minor _ hm, Res.bind_ok]
  by_cases h1 : major ≠ versionMajor ∨ minor ≠ versionMinor
  · rw [if_pos h1]
  · rw [if_neg h1, lawful_nat32.roundtrip tag _ ht]
    exact if_pos ((or_assoc.mpr hbad).resolve_left h1)

/-- A `Shape` object as the constructors leave it, with 32-bit fields. -/
def ShapeOk (s : Shape) : Prop :=
  s.dims.length < 4294967296 ∧ (∀ d ∈ s.dims, d < 4294967296) ∧ s.batch < 4294967296 ∧
    Shape.new s.dims s.batch = .ok s

theorem shapeOk_of_canonical {s : Shape} (h : s.Canonical) : ShapeOk s :=
  ⟨Nat.lt_of_le_of_lt h.len (by decide),
    fun d hd => by obtain ⟨i, hi, rfl⟩ := List.getElem_of_mem hd; rw [← ShapeL.getD_lt hi]; exact h.get_lt i,
    h.batch_lt, h.new_self⟩

theorem lawful_shapeC : Lawful shapeC ShapeOk := .of_reads fun s ⟨hl, hd, hb, hn⟩ =>
  ((lawful_arr lawful_nat32).reads ⟨hl, hd⟩).bind ((lawful_nat32.reads hb).bind_ret fun _ => by simp only [hn])

theorem leBytes_length (w : UInt32) : (leBytes w).length = 4 := rfl

theorem wordsToBytes_length (ws : List UInt32) : (wordsToBytes ws).length = ws.length * 4 := by
  induction ws with
  | nil => rfl
  | cons w ws ih => simp only [wordsToBytes, List.flatMap_cons, List.length_append, leBytes_length, List.length_cons] at ih ⊢; omega

theorem leBytes_sum {n : Nat} (h : n < 4294967296) :
    n % 256 + n / 256 % 256 * 256 + n / 65536 % 256 * 65536 + n / 16777216 % 256 * 16777216 = n := by
  conv => rhs; rw [← be32_sum h]
  ac_rfl

theorem bytesToWords_wordsToBytes (ws : List UInt32) : bytesToWords (wordsToBytes ws) = ws := by
  induction ws with
  | nil => rfl
  | cons w ws ih =>
    show UInt32.ofNat (w.toNat % 256 + w.toNat / 256 % 256 * 256 + w.toNat / 65536 % 256 * 65536 +
      w.toNat / 16777216 % 256 * 16777216) :: bytesToWords (wordsToBytes ws) = w :: ws
    rw [leBytes_sum w.toNat_lt, UInt32.ofNat_toNat, ih]

theorem reads_readTensor (s : Shape) (data : Bytes) (hs : ShapeOk s) (hd : data.length < 4294967296) :
    Reads readTensor (writeShape s ++ bin.enc data)
      (fun r => if data.length ≠ s.size * 4 then .error .invalid else .ok ⟨s, bytesToWords data⟩ r) :=
  (lawful_shapeC.reads hs).bind ((lawful_bin.reads hd).bind_ret fun _ => rfl)

/-- A tensor that `save` can write: a proper shape, `shape.size()` words, a payload below 2^32 bytes. -/
def TensorOk (t : Tensor) : Prop :=
  ShapeOk t.shape ∧ t.data.length = t.shape.size ∧ t.data.length * 4 < 4294967296

theorem lawful_tensorC : Lawful tensorC TensorOk := .of_reads fun t ⟨hs, hlen, hfit⟩ =>
  (reads_readTensor t.shape (wordsToBytes t.data) hs (by rw [wordsToBytes_length]; exact hfit)).congr_out fun _ => by
    rw [if_neg (by rw [wordsToBytes_length, hlen]; exact fun h => h rfl), bytesToWords_wordsToBytes]

/-- A statistics entry `save` can write: a name that fits a str, a saveable tensor. -/
def StatOk (x : Bytes × Tensor) : Prop := x.1.length < 4294967296 ∧ TensorOk x.2

theorem lawful_statC : Lawful statC StatOk := lawful_pair lawful_str lawful_tensorC

theorem statC_enc (x : Bytes × Tensor) : statC.enc x = str.enc x.1 ++ tensorC.enc x.2 := rfl

theorem reads_readStats (ws : Bool) :
    ∀ (l : List (Bytes × Tensor)) (acc : List (Bytes × Tensor)), (∀ x ∈ l, StatOk x) →
      Reads (fun bs => readStats ws l.length bs acc) (encList statC l)
        (.ok (if ws then l.foldl emplace acc else acc))
  | [], acc, _ => by cases ws <;> exact .nil _
  | x :: xs, acc, h => by
    have hx := h x List.mem_cons_self
    have ih := reads_readStats ws xs (if ws then emplace acc x else acc) fun y hy => h y (List.mem_cons_of_mem x hy)
    rw [show encList statC (x :: xs) = str.enc x.1 ++ (tensorC.enc x.2 ++ encList statC xs) from
      List.append_assoc ..]
    cases ws <;> exact (lawful_str.reads hx.1).bind ((lawful_tensorC.reads hx.2).bind ih)

/-- `load_inner` on a written record: everything is read, then the batch check decides.
A cut record is EOF whatever its batch size. -/
theorem reads_loadInner (p : Param) (wsS wsL : Bool) (dev : Dev) (hv : TensorOk p.value)
    (hn : p.stats.length < 4294967296) (hst : ∀ x ∈ p.stats, StatOk x) :
    Reads (fun bs => loadInner bs wsL dev) (saveInner p wsS)
      (fun r => if p.value.shape.hasBatch then .error .invalid
        else .ok ⟨p.value.shape, dev, p.value, Tensor.zeros p.value.shape,
                  if wsS && wsL then p.stats.foldl emplace [] else []⟩ r) := by
  unfold saveInner
  cases wsS
  · exact (lawful_tensorC.reads hv).bind ((lawful_nat32.reads (by omega : 0 < 4294967296)).bind_ret fun _ => rfl)
  · exact (lawful_tensorC.reads hv).bind
      ((lawful_nat32.reads hn).bind ((reads_readStats wsL p.stats [] hst).bind_ret fun _ => rfl))

/-- A parameter `save` can write and `load` accepts: batch 1, distinct statistics names. -/
def ParamOk (p : Param) : Prop :=
  TensorOk p.value ∧ p.value.shape.hasBatch = false ∧ p.stats.length < 4294967296 ∧
    (∀ x ∈ p.stats, StatOk x) ∧ (p.stats.map Prod.fst).Nodup

/-- what `load` makes of a saved parameter: value and shape from the file, zero gradient,
the given device, the statistics if they were saved and asked for -/
def loaded (p : Param) (stats : Bool) (dev : Dev) : Param :=
  ⟨p.value.shape, dev, p.value, Tensor.zeros p.value.shape, if stats then p.stats else []⟩

theorem reads_loadInner_ok (p : Param) (wsS wsL : Bool) (dev : Dev) (h : ParamOk p) :
    Reads (fun bs => loadInner bs wsL dev) (saveInner p wsS) (.ok (loaded p (wsS && wsL) dev)) :=
  (reads_loadInner p wsS wsL dev h.1 h.2.2.1 h.2.2.2.1).congr_out fun _ => by
    rw [h.2.1, show p.stats.foldl emplace [] = p.stats from emplaceAll_nodup p.stats h.2.2.2.2]; rfl

theorem Param.save_eq {p : Param} {ws : Bool} {file : Bytes} (h : Param.save (some p) ws = some file) :
    file = writeHeader .parameter ++ saveInner p ws := by
  simp only [Param.save] at h
  split at h
  · exact (Option.some.inj h).symm
  · cases h

theorem Param.reads_parse (p : Param) (wsS wsL : Bool) (dev : Dev) (file : Bytes)
    (hp : ParamOk p) (hs : Param.save (some p) wsS = some file) :
    Reads (fun bs => Param.parse bs wsL dev) file (.ok (loaded p (wsS && wsL) dev)) :=
  Param.save_eq hs ▸ (reads_readHeader .parameter).bind (reads_loadInner_ok p wsS wsL dev hp)

/-- A parameter name `save` can write: an array of strs, each length below 2^32. -/
def PathOk (k : Path) : Prop := k.length < 4294967296 ∧ ∀ n ∈ k, n.length < 4294967296

theorem lawful_pathC : Lawful pathC PathOk := lawful_arr lawful_str

def EntryOk (e : Path × Param) : Prop := PathOk e.1 ∧ ParamOk e.2

/-- The lookup `Model::load` makes for each name it reads (inline in `loadEntries`), under a name. -/
def hasKey (st : MState) (k : Path) : Bool := st.any fun e => e.1 = k

theorem hasKey_setParam (st : MState) (k k' : Path) (p : Param) : hasKey (setParam st k p) k' = hasKey st k' := by
  induction st with
  | nil => rfl
  | cons e st ih =>
    simp only [hasKey, setParam, List.map_cons, List.any_cons] at ih ⊢
    rw [ih]; by_cases h : e.1 = k <;> simp [h]

def applyEntries (ws : Bool) (dev : Dev) (es : List (Path × Param)) (st : MState) : MState :=
  es.foldl (fun s e => setParam s e.1 (loaded e.2 ws dev)) st

theorem hasKey_applyEntries (ws : Bool) (dev : Dev) (es : List (Path × Param)) (st : MState) (k : Path) :
    hasKey (applyEntries ws dev es st) k = hasKey st k := by
  induction es generalizing st with
  | nil => rfl
  | cons e es ih => simp only [applyEntries, List.foldl_cons] at ih ⊢; rw [ih, hasKey_setParam]

theorem loadEntries_succ (ws : Bool) (dev : Dev) (n : Nat) {bs r : Bytes} {key : Path} {st : MState}
    (hd : pathC.dec bs = .ok key r) (hk : hasKey st key = true) :
    loadEntries ws dev (n + 1) bs st =
      match loadInner r ws dev with
      | .error e => (some e, st)
      | .ok p r' => loadEntries ws dev n r' (setParam st key p) := by
  simp only [loadEntries, hd, show (st.any fun e => e.1 = key) = true from hk, Bool.not_true, Bool.false_eq_true,
    if_false]
  rfl

theorem loadEntries_step_ok (wsS wsL : Bool) (dev : Dev) (e : Path × Param) (n : Nat) (rest : Bytes) (st : MState)
    (he : EntryOk e) (hk : hasKey st e.1 = true) :
    loadEntries wsL dev (n + 1) (entryBytes wsS e ++ rest) st =
      loadEntries wsL dev n rest (setParam st e.1 (loaded e.2 (wsS && wsL) dev)) := by
  rw [entryBytes, List.append_assoc, loadEntries_succ wsL dev n (lawful_pathC.roundtrip e.1 _ he.1) hk,
    (reads_loadInner_ok e.2 wsS wsL dev he.2).whole rest]

theorem loadEntries_roundtrip (wsS wsL : Bool) (dev : Dev) :
    ∀ (es : List (Path × Param)) (rest : Bytes) (st : MState), (∀ e ∈ es, EntryOk e) →
      (∀ e ∈ es, hasKey st e.1 = true) →
      loadEntries wsL dev es.length (es.flatMap (entryBytes wsS) ++ rest) st =
        (none, applyEntries (wsS && wsL) dev es st)
  | [], rest, st, _, _ => by simp [loadEntries, applyEntries]
  | e :: es, rest, st, hok, hk => by
    have he : EntryOk e := hok e (by simp)
    simp only [List.flatMap_cons, List.length_cons, List.append_assoc]
    rw [loadEntries_step_ok wsS wsL dev e es.length _ st he (hk e (by simp))]
    rw [loadEntries_roundtrip wsS wsL dev es rest _ (fun x hx => hok x (by simp [hx]))
      (fun x hx => by rw [hasKey_setParam]; exact hk x (by simp [hx]))]
    simp [applyEntries]

theorem loadEntries_prefix (wsS wsL : Bool) (dev : Dev) :
    ∀ (es : List (Path × Param)) (p q : Bytes) (st : MState), (∀ e ∈ es, EntryOk e) →
      (∀ e ∈ es, hasKey st e.1 = true) → p ++ q = es.flatMap (entryBytes wsS) → q ≠ [] →
      ∃ j, j < es.length ∧
        loadEntries wsL dev es.length p st = (some .eof, applyEntries (wsS && wsL) dev (es.take j) st)
  | [], p, q, st, _, _, he, hq => by simp at he; exact absurd he.2 hq
  | e :: es, p, q, st, hok, hk, he, hq => by
    have hE : EntryOk e := hok e (by simp)
    have hK : hasKey st e.1 = true := hk e (by simp)
    simp only [List.flatMap_cons] at he
    rcases prefix_split he with ⟨a, ha, hpa⟩ | ⟨c, hpc, hc⟩
    · -- the cut is inside the first record
      refine ⟨0, by simp, ?_⟩
      show loadEntries wsL dev (es.length + 1) p st = (some .eof, st)
      rw [entryBytes] at hpa
      rcases prefix_split hpa with ⟨a', ha', hpa'⟩ | ⟨c', rfl, hc'⟩
      · rw [loadEntries, lawful_pathC.prefixFree e.1 p a' hE.1 hpa' ha']
      · rw [loadEntries_succ wsL dev _ (lawful_pathC.roundtrip e.1 c' hE.1) hK,
          (reads_loadInner_ok e.2 wsS wsL dev hE.2).cut c' a hc' ha]
    · subst hpc
      simp only [List.length_cons]
      rw [loadEntries_step_ok wsS wsL dev e es.length c st hE hK]
      obtain ⟨j, hj, hres⟩ := loadEntries_prefix wsS wsL dev es c q _ (fun x hx => hok x (by simp [hx]))
        (fun x hx => by rw [hasKey_setParam]; exact hk x (by simp [hx])) hc hq
      exact ⟨j + 1, by omega, by rw [hres]; simp [applyEntries]⟩

theorem setParam_keys (st : MState) (k : Path) (p : Param) : (setParam st k p).map Prod.fst = st.map Prod.fst := by
  induction st with
  | nil => rfl
  | cons e st ih =>
    simp only [setParam, List.map_cons, List.cons.injEq] at ih ⊢
    exact ⟨by by_cases h : e.1 = k <;> simp [h], ih⟩

theorem applyEntries_keys (ws : Bool) (dev : Dev) (es : List (Path × Param)) (st : MState) :
    (applyEntries ws dev es st).map Prod.fst = st.map Prod.fst := by
  induction es generalizing st with
  | nil => rfl
  | cons e es ih => simp only [applyEntries, List.foldl_cons] at ih ⊢; rw [ih, setParam_keys]

theorem mem_setParam_self (st : MState) (k : Path) (p : Param) (h : hasKey st k = true) :
    (k, some p) ∈ setParam st k p := by
  simp only [hasKey, List.any_eq_true, decide_eq_true_eq] at h
  obtain ⟨e, he, hk⟩ := h
  simp only [setParam, List.mem_map]
  exact ⟨e, he, by simp [hk]⟩

theorem mem_setParam_other (st : MState) (k : Path) (p : Param) (x : Path × PState) (hx : x ∈ st) (hne : x.1 ≠ k) :
    x ∈ setParam st k p := by
  simp only [setParam, List.mem_map]
  exact ⟨x, hx, by simp [hne]⟩

theorem applyEntries_other (ws : Bool) (dev : Dev) (es : List (Path × Param)) (st : MState) (x : Path × PState)
    (hx : x ∈ st) (hne : x.1 ∉ es.map Prod.fst) : x ∈ applyEntries ws dev es st := by
  induction es generalizing st with
  | nil => exact hx
  | cons e es ih =>
    simp only [List.map_cons, List.mem_cons, not_or] at hne
    simp only [applyEntries, List.foldl_cons] at ih ⊢
    exact ih _ (mem_setParam_other st e.1 _ x hx hne.1) hne.2

theorem applyEntries_mem (ws : Bool) (dev : Dev) (es : List (Path × Param)) (st : MState)
    (hnd : (es.map Prod.fst).Nodup) (hk : ∀ e ∈ es, hasKey st e.1 = true) :
    ∀ e ∈ es, (e.1, some (loaded e.2 ws dev)) ∈ applyEntries ws dev es st := by
  induction es generalizing st with
  | nil => intro e he; cases he
  | cons e0 es ih =>
    intro e he
    simp only [List.map_cons, List.nodup_cons] at hnd
    have hk0 := hk e0 (by simp)
    rcases List.mem_cons.mp he with rfl | he'
    · exact applyEntries_other ws dev es _ _ (mem_setParam_self st _ _ hk0) hnd.1
    · exact ih (setParam st e0.1 (loaded e0.2 ws dev)) hnd.2
        (fun x hx => by rw [hasKey_setParam]; exact hk x (by simp [hx])) e he'

theorem allValid_spec : ∀ (l : MState) (es : List (Path × Param)), allValid l = some es →
    l = es.map fun e => (e.1, some e.2)
  | [], es, h => by simp [allValid] at h; subst h; rfl
  | (k, some p) :: r, es, h => by
    simp only [allValid, Option.map_eq_some_iff] at h
    obtain ⟨l', hl', rfl⟩ := h
    simp [allValid_spec r l' hl']
  | (k, none) :: r, es, h => by simp [allValid] at h

theorem sortEntries_perm {α : Type} (m : List (Path × α)) : (sortEntries m).Perm m := List.mergeSort_perm _ _

theorem Model.save_eq {m : MState} {ws : Bool} {file : Bytes} (h : Model.save m ws = some file) :
    ∃ es : List (Path × Param), sortEntries m = es.map (fun e => (e.1, some e.2)) ∧
      file = writeHeader .model ++ nat32.enc es.length ++ es.flatMap (entryBytes ws) := by
  simp only [Model.save] at h
  split at h
  · cases h
  · rename_i es hes
    split at h
    · exact ⟨es, allValid_spec _ _ hes, ((Option.some.inj h).symm.trans (List.append_assoc ..).symm)⟩
    · cases h

/-- What the round trip needs of a model: distinct names, saveable parameters, fewer than 2^32 of them. -/
def ModelOk (m : MState) : Prop :=
  m.length < 4294967296 ∧ (m.map Prod.fst).Nodup ∧ ∀ k p, (k, some p) ∈ m → PathOk k ∧ ParamOk p

theorem Model.saved_entries {m : MState} {es : List (Path × Param)} (hm : ModelOk m)
    (hes : sortEntries m = es.map (fun e => (e.1, some e.2))) :
    es.length < 4294967296 ∧ (es.map Prod.fst).Nodup ∧ (∀ e ∈ es, EntryOk e) ∧
      (∀ e, e ∈ es ↔ (e.1, some e.2) ∈ m) ∧ (∀ k, k ∈ es.map Prod.fst ↔ k ∈ m.map Prod.fst) := by
  have hperm := sortEntries_perm m
  rw [hes] at hperm
  have hlen : es.length = m.length := by simpa using hperm.length_eq
  have hkeys : (es.map Prod.fst).Perm (m.map Prod.fst) := by
    have := hperm.map Prod.fst
    simpa [List.map_map, Function.comp_def] using this
  have hmem : ∀ e, e ∈ es ↔ (e.1, some e.2) ∈ m := fun e => by
    rw [← hperm.mem_iff, List.mem_map]
    exact ⟨fun h => ⟨e, h, rfl⟩, fun ⟨e', he', heq⟩ => by cases e'; cases e; cases heq; exact he'⟩
  exact ⟨hlen ▸ hm.1, hkeys.nodup_iff.mpr hm.2.1, fun e he => hm.2.2 e.1 e.2 ((hmem e).mp he), hmem,
    fun k => hkeys.mem_iff⟩

theorem Model.reads_parseCount (n : Nat) (hn : n < 4294967296) :
    Reads Model.parseCount (writeHeader .model ++ nat32.enc n) (.ok n) :=
  (reads_readHeader .model).bind (lawful_nat32.reads hn)

theorem loadEntries_atomic (ws : Bool) (dev : Dev) :
    ∀ (n : Nat) (bs : Bytes) (st : MState) (r : Option DErr) (post : MState),
      loadEntries ws dev n bs st = (r, post) →
      post.map Prod.fst = st.map Prod.fst ∧
        ∀ x ∈ post, x ∈ st ∨ ∃ bs' p rest, loadInner bs' ws dev = .ok p rest ∧ x.2 = some p
  | 0, bs, st, r, post, h => by
    simp only [loadEntries] at h
    obtain ⟨_, rfl⟩ := Prod.mk.inj h
    exact ⟨rfl, fun x hx => Or.inl hx⟩
  | n + 1, bs, st, r, post, h => by
    simp only [loadEntries] at h
    split at h
    · obtain ⟨_, rfl⟩ := Prod.mk.inj h; exact ⟨rfl, fun x hx => Or.inl hx⟩
    · rename_i key r1 _
      split at h
      · obtain ⟨_, rfl⟩ := Prod.mk.inj h; exact ⟨rfl, fun x hx => Or.inl hx⟩
      · split at h
        · obtain ⟨_, rfl⟩ := Prod.mk.inj h; exact ⟨rfl, fun x hx => Or.inl hx⟩
        · rename_i p r2 hp
          obtain ⟨hkeys, hall⟩ := loadEntries_atomic ws dev n r2 _ r post h
          refine ⟨by rw [hkeys, setParam_keys], fun x hx => ?_⟩
          rcases hall x hx with h1 | h1
          · simp only [setParam, List.mem_map] at h1
            obtain ⟨e, he, hex⟩ := h1
            by_cases hk : e.1 = key
            · right; refine ⟨r1, p, r2, hp, ?_⟩; rw [← hex]; simp [hk]
            · left; rw [← hex]; simpa [hk] using he
          · exact Or.inr h1

/-- One hyperparameter value per key of the algorithm (`float_configs` zips the two lists). -/
def OptOk (o : Opt) : Prop := o.hyper.length = o.kind.keys.length

abbrev KeyOk : Bytes → Prop := fun s => s.length < 4294967296

/-- a config map `save` can write: keys that fit a str, all distinct -/
abbrev ConfigsOk : List (Bytes × UInt32) → Prop := MapOk KeyOk fun _ => True

theorem lawful_uintMapC : Lawful uintMapC ConfigsOk := lawful_map lawful_str (lawful_scalar32 _)
theorem lawful_floatMapC : Lawful floatMapC ConfigsOk := lawful_map lawful_str (lawful_scalar32 _)

theorem Opt.save_eq (o : Opt) :
    o.save = writeHeader .optimizer ++ (uintMapC.enc o.uintConfigs ++ floatMapC.enc o.floatConfigs) :=
  List.append_assoc ..

theorem Opt.reads_parse (uc fc : List (Bytes × UInt32)) (hu : ConfigsOk uc) (hf : ConfigsOk fc) :
    Reads Opt.parse (writeHeader .optimizer ++ (uintMapC.enc uc ++ floatMapC.enc fc)) (.ok (uc, fc)) :=
  (reads_readHeader .optimizer).bind
    ((lawful_uintMapC.reads hu).bind ((lawful_floatMapC.reads hf).bind_ret fun _ => rfl))

theorem uintConfigs_ok (o : Opt) : ConfigsOk o.uintConfigs :=
  ⟨show 1 < 4294967296 by decide,
    fun x hx => by rw [List.mem_singleton.mp hx]; exact ⟨show kOptimizer_epoch.length < 4294967296 by decide, trivial⟩,
    List.pairwise_singleton ..⟩

/-- the keys of `float_configs`: those of the base class, then the algorithm's own -/
def floatKeys (k : OptKind) : List Bytes :=
  [kOptimizer_lr_scale, kOptimizer_l2_strength, kOptimizer_clip_threshold] ++ k.keys

theorem floatKeys_ok (k : OptKind) : (floatKeys k).length < 4294967296 ∧ (∀ s ∈ floatKeys k, KeyOk s) ∧ (floatKeys k).Nodup := by
  cases k <;> decide

theorem floatConfigs_keys (o : Opt) (h : OptOk o) : o.floatConfigs.map Prod.fst = floatKeys o.kind := by
  simp only [Opt.floatConfigs, List.map_append, List.map_cons, List.map_nil, List.map_fst_zip (Nat.le_of_eq h.symm),
    floatKeys]

theorem floatConfigs_ok (o : Opt) (h : OptOk o) : ConfigsOk o.floatConfigs := by
  have hk := floatConfigs_keys o h
  obtain ⟨hlen, hkey, hnd⟩ := floatKeys_ok o.kind
  refine ⟨?_, fun x hx => ⟨hkey x.1 (hk ▸ List.mem_map_of_mem hx), trivial⟩, hk ▸ hnd⟩
  rw [← List.length_map Prod.fst, hk]; exact hlen

theorem lookup_of_mem {α β : Type} [BEq α] [LawfulBEq α] {cfg : List (α × β)} (hnd : (cfg.map Prod.fst).Nodup)
    {k : α} {v : β} (h : (k, v) ∈ cfg) : cfg.lookup k = some v := by
  induction cfg with
  | nil => cases h
  | cons e cfg ih =>
    obtain ⟨hne, hnd'⟩ := List.nodup_cons.mp hnd
    rcases List.mem_cons.mp h with rfl | h'
    · exact List.lookup_cons_self
    · have : (k == e.1) = false := beq_false_of_ne fun heq => hne (heq ▸ List.mem_map_of_mem h')
      rw [List.lookup_cons, this]; exact ih hnd' h'

theorem setConfig_of_mem {cfg : List (Bytes × UInt32)} (hnd : (cfg.map Prod.fst).Nodup) {k : Bytes} {v : UInt32}
    (h : (k, v) ∈ cfg) (dest : UInt32) : setConfig dest cfg k = v := by
  rw [setConfig, lookup_of_mem hnd h]

theorem setHyper_of_mem {cfg : List (Bytes × UInt32)} (hnd : (cfg.map Prod.fst).Nodup) :
    ∀ (ks : List Bytes) (hs hs' : List UInt32), hs.length = ks.length → hs'.length = ks.length →
      (∀ kv ∈ ks.zip hs, kv ∈ cfg) → setHyper ks hs' cfg = hs
  | [], [], [], _, _, _ => rfl
  | k :: ks, h :: hs, h' :: hs', hl, hl', hm => by
    rw [setHyper, setConfig_of_mem hnd (hm (k, h) List.mem_cons_self),
      setHyper_of_mem hnd ks hs hs' (Nat.succ.inj hl) (Nat.succ.inj hl') fun kv hkv => hm kv (List.mem_cons_of_mem _ hkv)]

/-- every key is written once, so every `SET_CONFIG` finds the value `get_configs` stored under it -/
theorem setConfigs_getConfigs (old o : Opt) (hk : old.kind = o.kind) (ho : OptOk o) (hold : OptOk old) :
    old.setConfigs o.uintConfigs o.floatConfigs = o := by
  have hu := (uintConfigs_ok o).2.2
  have hf := (floatConfigs_ok o ho).2.2
  have hmem : ∀ kv ∈ [(kOptimizer_lr_scale, o.lrScale), (kOptimizer_l2_strength, o.l2), (kOptimizer_clip_threshold, o.clip)],
      kv ∈ o.floatConfigs := fun kv h => List.mem_append_left _ h
  obtain ⟨kind, epoch, lr, l2, clip, hyper⟩ := o
  obtain ⟨kind', epoch', lr', l2', clip', hyper'⟩ := old
  cases hk
  simp only [Opt.setConfigs, Opt.mk.injEq, true_and]
  exact ⟨setConfig_of_mem hu List.mem_cons_self _, setConfig_of_mem hf (hmem _ (by simp)) _,
    setConfig_of_mem hf (hmem _ (by simp)) _, setConfig_of_mem hf (hmem _ (by simp)) _,
    setHyper_of_mem hf _ _ _ ho hold fun kv h => List.mem_append_right _ h⟩

/-- a 2×3 parameter on the naive device with a NaN payload, −0.0, a denormal and ±∞, a non-zero
gradient and two statistics (one of them minibatched) -/
def exampleParam : Param :=
  let s : Shape := ⟨[2, 3], 1, 6⟩
  ⟨s, .naive, ⟨s, [0x7fc00001, 0x80000000, 0x00000001, 0x7f800000, 0xff800000, 0x3f800000]⟩,
   ⟨s, [1, 2, 3, 4, 5, 6]⟩,
   [([109], ⟨⟨[2], 1, 2⟩, [1, 0x80000000]⟩), ([], ⟨⟨[], 2, 1⟩, [2, 3]⟩)]⟩

theorem exampleShapeOk : ShapeOk ⟨[2, 3], 1, 6⟩ := by
  refine ⟨by simp, by simp, by simp, rfl⟩

theorem exampleParamOk : ParamOk exampleParam := by
  refine ⟨⟨exampleShapeOk, rfl, by simp [exampleParam]⟩, rfl, by simp [exampleParam], ?_, by simp [exampleParam]⟩
  intro x hx
  simp only [exampleParam, List.mem_cons, List.mem_nil_iff, or_false] at hx
  rcases hx with rfl | rfl
  · exact ⟨by simp, ⟨by simp, by simp, by simp, rfl⟩, rfl, by simp⟩
  · exact ⟨by simp, ⟨by simp, by simp, by simp, rfl⟩, rfl, by simp⟩

end Primitiv.Files
