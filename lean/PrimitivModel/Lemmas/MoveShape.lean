import PrimitivModel.Lemmas.MoveGeneric
import PrimitivModel.Lemmas.Shape
/-
Shape plumbing for the kernels family: what the well-formed shapes are (the
ones the public constructor yields and the shape rules preserve), how the
model's 32-bit `lowerVolume`/`volume`/`size` relate to the true products on
them, and what each shape rule used by a Device front-end says about
`get` / `batch` of its result.
-/
namespace Primitiv.MoveShape
open Primitiv Primitiv.Move

/-- `∏_{i<n} f i`.  The extents enter the kernels as the function `Shape.get` of the axis, defined beyond
the depth as well, so products here run over a function and a number of axes; `prod_take` relates them to
`Spec.prod` of a list, `pi_eq_prod` (MovePermute) to `Finset.prod`, used for reindexing only. -/
def pi (f : Nat → Nat) : Nat → Nat
  | 0 => 1
  | n + 1 => pi f n * f n

def piR (f : Nat → Nat) (a : Nat) : Nat → Nat
  | 0 => 1
  | k + 1 => piR f a k * f (a + k)

theorem pi_add (f : Nat → Nat) (a k : Nat) : pi f (a + k) = pi f a * piR f a k := by
  induction k with
  | zero => simp [piR]
  | succ k ih => rw [← Nat.add_assoc]; simp only [pi, piR]; rw [ih]; ring

theorem piR_succ_left (f : Nat → Nat) (a k : Nat) : piR f a (k + 1) = f a * piR f (a + 1) k := by
  induction k with
  | zero => simp [piR]
  | succ k ih =>
    rw [piR, ih]; simp only [piR]
    have : a + 1 + k = a + (k + 1) := by omega
    rw [this]; ring

theorem pi_congr {f g : Nat → Nat} {n : Nat} (h : ∀ i, i < n → f i = g i) : pi f n = pi g n := by
  induction n with
  | zero => rfl
  | succ n ih =>
    simp only [pi]
    rw [ih (fun i hi => h i (by omega)), h n (by omega)]

theorem piR_congr {f g : Nat → Nat} {a k : Nat} (h : ∀ i, a ≤ i → i < a + k → f i = g i) : piR f a k = piR g a k := by
  induction k with
  | zero => rfl
  | succ k ih =>
    simp only [piR]
    rw [ih (fun i h1 h2 => h i h1 (by omega)), h (a + k) (by omega) (by omega)]

theorem pi_pos {f : Nat → Nat} (h : ∀ i, 0 < f i) (n : Nat) : 0 < pi f n := by
  induction n with
  | zero => simp [pi]
  | succ n ih => simp only [pi]; exact Nat.mul_pos ih (h n)

theorem piR_pos {f : Nat → Nat} (h : ∀ i, 0 < f i) (a k : Nat) : 0 < piR f a k := by
  induction k with
  | zero => simp [piR]
  | succ k ih => simp only [piR]; exact Nat.mul_pos ih (h _)

theorem piR_ones {f : Nat → Nat} {a : Nat} (h : ∀ i, a ≤ i → f i = 1) (k : Nat) : piR f a k = 1 := by
  induction k with
  | zero => rfl
  | succ k ih => simp only [piR]; rw [ih, h (a + k) (by omega)]

theorem pi_ones {f : Nat → Nat} (h : ∀ i, f i = 1) (n : Nat) : pi f n = 1 := by
  induction n with
  | zero => rfl
  | succ n ih => simp only [pi]; rw [ih, h n]

theorem pi_cons (x : Nat) (l : List Nat) (n : Nat) :
    pi (fun i => (x :: l).getD i 1) (n + 1) = x * pi (fun i => l.getD i 1) n := by
  induction n with
  | zero => simp [pi]
  | succ n ih =>
    rw [pi, ih]; simp only [pi]
    have : (x :: l).getD (n + 1) 1 = l.getD n 1 := by simp [List.getD]
    rw [this]; ring

theorem pi_pos_factor {f : Nat → Nat} {n : Nat} (h : pi f n ≠ 0) : ∀ i, i < n → 0 < f i := by
  induction n with
  | zero => intro i hi; omega
  | succ n ih =>
    intro i hi
    have ⟨h1, h2⟩ := Nat.mul_ne_zero_iff.mp h
    rcases Nat.lt_succ_iff_lt_or_eq.mp hi with hlt | rfl
    · exact ih h1 i hlt
    · exact Nat.pos_of_ne_zero h2

theorem pi_split (f : Nat → Nat) {d n : Nat} (hd : d < n) : pi f n = pi f d * f d * piR f (d + 1) (n - (d + 1)) := by
  conv => lhs; rw [show n = d + ((n - (d + 1)) + 1) by omega]
  rw [pi_add, piR_succ_left]; ring

theorem pi_getD_ext (l : List Nat) {n : Nat} (h : l.length ≤ n) :
    pi (fun i => l.getD i 1) n = pi (fun i => l.getD i 1) l.length := by
  have e : n = l.length + (n - l.length) := by omega
  rw [e, pi_add, piR_ones]; · simp
  intro i hi; simp [List.getD, List.getElem?_eq_none hi]

theorem prod_take (l : List Nat) (d : Nat) : Spec.prod (l.take d) = pi (fun i => l.getD i 1) d := by
  induction l generalizing d with
  | nil => rw [List.take_nil, pi_ones (by intro i; simp [List.getD])]; rfl
  | cons x xs ih =>
    cases d with
    | zero => rfl
    | succ d => rw [List.take_succ_cons, ShapeL.prod_cons, ih, pi_cons]

def lo (s : Shape) (d : Nat) : Nat := pi s.get d
/-- `8` is `Shape::MAX_DEPTH`: no axis at or beyond it has an extent other than 1 -/
def up (s : Shape) (d : Nat) : Nat := piR s.get (d + 1) (8 - (d + 1))

/-- What the kernels need of a `Shape`, and every `Shape` the library can construct has: at most
`Shape::MAX_DEPTH = 8` axes, no extent 0, the cached volume right, fewer than 2^32 elements in all.
This is the class invariant `Shape.Canonical` of Lemmas/Shape.lean without "no trailing axes of extent 1"
(`WF.of_canonical`): the kernels read the extents through `get` only, where trailing ones do not show, and
stated through `get` the invariant passes to a shape given by its extents (`view_of_update`, `oneSample`)
without a normal form of `dims` to re-establish. -/
structure WF (s : Shape) : Prop where
  depth_le : s.dims.length ≤ 8
  pos : ∀ i, 0 < s.get i
  bpos : 0 < s.batch
  vol : s.volume = pi s.get 8
  fits : s.volume * s.batch < W

theorem get_of_ge {s : Shape} {i : Nat} (h : s.dims.length ≤ i) : s.get i = 1 := by
  unfold Shape.get; simp [List.getD, List.getElem?_eq_none h]

theorem WF.of_canonical {s : Shape} (h : s.Canonical) : WF s where
  depth_le := h.len
  pos := h.get_pos
  bpos := Nat.pos_of_ne_zero h.batch_ne
  vol := by
    show s.volume = pi (fun i => s.dims.getD i 1) 8
    rw [h.vol, pi_getD_ext s.dims h.len, ← prod_take, List.take_length]
  fits := by have := h.bound; have : MAXU + 1 = W := rfl; omega

theorem WF.get_ge8 {s : Shape} (h : WF s) {i : Nat} (hi : 8 ≤ i) : s.get i = 1 :=
  get_of_ge (by have := h.depth_le; omega)

theorem lo_pos {s : Shape} (h : WF s) (d : Nat) : 0 < lo s d := pi_pos h.pos d
theorem up_pos {s : Shape} (h : WF s) (d : Nat) : 0 < up s d := piR_pos h.pos _ _

theorem WF.view {s : Shape} (h : WF s) (d : Nat) : s.volume = lo s d * s.get d * up s d := by
  rw [h.vol]
  rcases Nat.lt_or_ge d 8 with hd | hd
  · exact pi_split s.get hd
  · unfold lo up
    have e : d = 8 + (d - 8) := by omega
    have e2 : 8 - (d + 1) = 0 := by omega
    rw [e2, h.get_ge8 hd]
    conv => rhs; rw [e, pi_add]
    rw [piR_ones (fun i hi => h.get_ge8 hi)]; simp [piR]

theorem volume_eq_pi {s : Shape} (hs : WF s) {n : Nat} (h1 : ∀ k, n ≤ k → s.get k = 1) (h8 : n ≤ 8) :
    s.volume = pi s.get n := by
  rw [hs.vol]
  have e : 8 = n + (8 - n) := by omega
  rw [e, pi_add, piR_ones (fun i hi => h1 i hi), Nat.mul_one]

theorem WF.vol_pos {s : Shape} (h : WF s) : 0 < s.volume := by
  rw [h.vol]; exact pi_pos h.pos 8

theorem WF.vol_lt {s : Shape} (h : WF s) : s.volume < W :=
  Nat.lt_of_le_of_lt (Nat.le_mul_of_pos_right _ h.bpos) h.fits

theorem WF.batch_lt {s : Shape} (h : WF s) : s.batch < W :=
  Nat.lt_of_le_of_lt (Nat.le_mul_of_pos_left _ h.vol_pos) h.fits

theorem WF.size_eq {s : Shape} (h : WF s) : s.size = s.volume * s.batch := by
  unfold Shape.size mul32
  rw [Nat.mul_comm, Nat.mod_eq_of_lt h.fits]

theorem WF.lo_le {s : Shape} (h : WF s) (d : Nat) : lo s d ≤ s.volume := by
  rw [h.view d, Nat.mul_assoc]
  exact Nat.le_mul_of_pos_right _ (Nat.mul_pos (h.pos d) (up_pos h d))

theorem WF.get_le {s : Shape} (h : WF s) (d : Nat) : s.get d ≤ s.volume := by
  rw [h.view d]
  exact Nat.le_trans (Nat.le_mul_of_pos_left _ (lo_pos h d)) (Nat.le_mul_of_pos_right _ (up_pos h d))

theorem WF.get_lt {s : Shape} (h : WF s) (d : Nat) : s.get d < W :=
  Nat.lt_of_le_of_lt (h.get_le d) h.vol_lt

theorem WF.lowerVolume_eq {s : Shape} (h : WF s) (d : Nat) : s.lowerVolume d = lo s d := by
  unfold Shape.lowerVolume
  rw [ShapeL.prod32_eq, prod_take]
  exact Nat.mod_eq_of_lt (Nat.lt_of_le_of_lt (h.lo_le d) h.vol_lt)

theorem getD_of_ge_trim (l : List Nat) {i : Nat} (h : (trim l).length ≤ i) : l.getD i 1 = 1 := by
  rw [← ShapeL.getD_trim]; simp [List.getD, List.getElem?_eq_none h]

theorem new_ok {dims : List Nat} {b : Nat} {s : Shape} (h : Shape.new dims b = .ok s) :
    WF s ∧ s.batch = b ∧ (∀ i, s.get i = dims.getD i 1) ∧ dims.length ≤ 8 ∧ s.dims.length ≤ dims.length := by
  unfold Shape.new at h
  have ⟨hlen, h⟩ := ite_ok h
  split at h
  · cases h
  rename_i vol hv
  have ⟨hc, h⟩ := ite_ok h
  obtain rfl := Except.ok.inj h
  have hvol : vol = pi (fun i => dims.getD i 1) dims.length := by
    rw [ShapeL.prodChk_some hv, Nat.one_mul, ← prod_take, List.take_length]
  have hget : ∀ i, (Shape.mk (trim dims) b vol).get i = dims.getD i 1 := fun i => ShapeL.getD_trim dims i
  have hlen' : dims.length ≤ 8 := by omega
  have hpos : ∀ i, 0 < dims.getD i 1 := by
    intro i
    rcases Nat.lt_or_ge i dims.length with hi | hi
    · exact pi_pos_factor (f := fun i => dims.getD i 1) (by rw [← hvol]; omega) i hi
    · simp [List.getD, List.getElem?_eq_none hi]
  have : MAXU + 1 = W := rfl
  refine ⟨⟨Nat.le_trans (ShapeL.length_trim_le dims) hlen', fun i => by rw [hget]; exact hpos i, by show 0 < b; omega, ?_,
    by show vol * b < W; omega⟩, rfl, hget, hlen', ShapeL.length_trim_le dims⟩
  show vol = pi (Shape.mk (trim dims) b vol).get 8
  rw [hvol, ← pi_getD_ext dims hlen']
  exact pi_congr (fun i _ => (hget i).symm)

theorem updateBatch_ok {s y : Shape} {b : Nat} (hs : WF s) (h : s.updateBatch b = .ok y) :
    WF y ∧ y.batch = b ∧ y.dims = s.dims ∧ y.volume = s.volume := by
  unfold Shape.updateBatch at h
  have ⟨hb, h⟩ := ite_ok h
  have ⟨hfit, h⟩ := ite_ok h
  obtain rfl := Except.ok.inj h
  have : MAXU + 1 = W := rfl
  exact ⟨⟨hs.depth_le, hs.pos, by show 0 < b; omega, hs.vol, by show s.volume * b < W; omega⟩, rfl, rfl, rfl⟩

theorem get_eq_of_dims {a b : Shape} (h : a.dims = b.dims) (i : Nat) : a.get i = b.get i := by
  unfold Shape.get; rw [h]

theorem getD_set (l : List Nat) (d m i : Nat) (hd : d < l.length) :
    (l.set d m).getD i 1 = if i = d then m else l.getD i 1 := by
  simp only [List.getD, List.getElem?_set]
  by_cases h : i = d
  · subst h; simp [hd]
  · have : ¬ d = i := fun e => h e.symm
    simp [h, this]

theorem updateDim_ok {s y : Shape} {d m : Nat} (hs : WF s) (h : s.updateDim d m = .ok y) :
    d < 8 ∧ 0 < m ∧ WF y ∧ y.batch = s.batch ∧ (∀ i, y.get i = if i = d then m else s.get i) ∧
    y.volume = lo s d * m * up s d := by
  unfold Shape.updateDim at h
  have ⟨hd, h⟩ := ite_ok h
  have ⟨hm, h⟩ := ite_ok h
  have ⟨_, h⟩ := ite_ok h
  have ⟨hfit, h⟩ := ite_ok h
  generalize hpad : (if d ≥ s.depth then s.dims ++ List.replicate (d + 1 - s.depth) 1 else s.dims) = dims1 at h
  obtain rfl := Except.ok.inj h
  have hd8 : d < 8 := by omega
  have hlen1 : d < dims1.length ∧ dims1.length ≤ 8 := by
    have := hs.depth_le
    subst hpad; unfold Shape.depth
    split
    · simp only [List.length_append, List.length_replicate]; omega
    · omega
  have hget1 : ∀ i, dims1.getD i 1 = s.get i := by
    intro i; subst hpad
    split
    · exact ShapeL.getD_append_ones _ _ _
    · rfl
  have hget : ∀ v i, (Shape.mk (trim (dims1.set d m)) s.batch v).get i = if i = d then m else s.get i := by
    intro v i
    show (trim (dims1.set d m)).getD i 1 = _
    rw [ShapeL.getD_trim, getD_set _ _ _ _ hlen1.1, hget1]
  have hvol : s.volume / s.get d * m = lo s d * m * up s d := by
    rw [hs.view d, show lo s d * s.get d * up s d = s.get d * (lo s d * up s d) by ring,
      Nat.mul_div_cancel_left _ (hs.pos d)]
    ring
  have : MAXU + 1 = W := rfl
  refine ⟨hd8, by omega, ⟨?_, ?_, hs.bpos, ?_, by show s.volume / s.get d * m * s.batch < W; omega⟩, rfl, hget _, hvol⟩
  · exact Nat.le_trans (ShapeL.length_trim_le _) (by rw [List.length_set]; exact hlen1.2)
  · intro i; rw [hget]; split
    · omega
    · exact hs.pos i
  · show s.volume / s.get d * m = pi _ 8
    rw [hvol, pi_split _ hd8, hget _ d, if_pos rfl]
    congr 1
    · congr 1
      exact pi_congr (fun i hi => by rw [hget _ i, if_neg (by omega)])
    · exact piR_congr (fun i h1 _ => by rw [hget _ i, if_neg (by omega)])

theorem hasSameDims_get {a b : Shape} (h : a.hasSameDims b = true) (i : Nat) : a.get i = b.get i := by
  unfold Shape.hasSameDims at h
  simp only [Bool.and_eq_true, List.all_eq_true, List.mem_range, beq_iff_eq] at h
  obtain ⟨h1, h2⟩ := h
  rcases Nat.lt_or_ge i a.depth with hi | hi
  · exact h1 i hi
  · rw [get_of_ge hi, get_of_ge (by unfold Shape.depth at h2 hi; omega)]

theorem eq_get {a b : Shape} (h : a.eq b = true) : (∀ i, a.get i = b.get i) ∧ a.batch = b.batch := by
  unfold Shape.eq at h
  simp only [Bool.and_eq_true, beq_iff_eq] at h
  exact ⟨hasSameDims_get h.1, h.2⟩

theorem volume_eq_of_get {a b : Shape} (ha : WF a) (hb : WF b) (h : ∀ i, a.get i = b.get i) : a.volume = b.volume := by
  rw [ha.vol, hb.vol]; exact pi_congr (fun i _ => h i)

theorem lo_eq_of_get {a b : Shape} {d : Nat} (h : ∀ i, i < d → a.get i = b.get i) : lo a d = lo b d :=
  pi_congr h

theorem up_eq_of_get {a b : Shape} {d : Nat} (h : ∀ i, d < i → a.get i = b.get i) : up a d = up b d :=
  piR_congr (fun i h1 _ => h i (by omega))

theorem size_eq_of_eq {a b : Shape} (ha : WF a) (hb : WF b) (h : a.eq b = true) :
    a.volume = b.volume ∧ a.size = b.size := by
  have ⟨hg, hbt⟩ := eq_get h
  have hv := volume_eq_of_get ha hb hg
  exact ⟨hv, by rw [ha.size_eq, hb.size_eq, hv, hbt]⟩

/-- `Shape::operator==` is equality on well-formed shapes -/
theorem shape_eq_of_eq {a b : Shape} (ha : WF a) (hb : WF b) (h : a.eq b = true) : a = b := by
  have ⟨hg, hbt⟩ := eq_get h
  have hv := volume_eq_of_get ha hb hg
  unfold Shape.eq Shape.hasSameDims at h
  simp only [Bool.and_eq_true, List.all_eq_true, List.mem_range, beq_iff_eq] at h
  obtain ⟨⟨h1, h2⟩, _⟩ := h
  have hd : a.dims = b.dims := by
    apply List.ext_getElem
    · exact h2
    · intro i hi1 hi2
      have := h1 i hi1
      simpa [List.getD, List.getElem?_eq_getElem hi1, List.getElem?_eq_getElem hi2] using this
  cases a; cases b
  simp only at hd hbt hv
  subst hd; subst hbt; subst hv
  rfl

theorem getD_take (l : List Nat) (d i : Nat) (h : i < d) : (l.take d).getD i 1 = l.getD i 1 := by
  simp [List.getD, h]

theorem looLen_ones {s : Shape} {dim n : Nat} (h : s.looLen dim = .ok n) :
    ∀ i, n ≤ i → i ≠ dim → s.get i = 1 := by
  unfold Shape.looLen at h
  intro i hi hne
  split at h <;> obtain rfl := Except.ok.inj h
  · rename_i hc
    rcases Nat.lt_or_ge i dim with hlt | hge
    · exact (getD_take _ _ _ hlt).symm.trans (getD_of_ge_trim _ hi)
    · exact get_of_ge (by unfold Shape.depth at hc; omega)
  · exact getD_of_ge_trim _ hi

theorem hasSameLooDims_get {a b : Shape} {dim : Nat} (h : a.hasSameLooDims b dim = .ok true) :
    ∀ i, i ≠ dim → a.get i = b.get i := by
  unfold Shape.hasSameLooDims at h
  obtain ⟨nl, h1, h⟩ := bind_ok.mp h
  obtain ⟨nr, h2, h⟩ := bind_ok.mp h
  have h := Except.ok.inj h
  simp only [Bool.and_eq_true, beq_iff_eq, List.all_eq_true, List.mem_range, Bool.or_eq_true] at h
  obtain ⟨rfl, hall⟩ := h
  intro i hne
  rcases Nat.lt_or_ge i nl with hi | hi
  · exact (hall i hi).resolve_right hne
  · rw [looLen_ones h1 i hi hne, looLen_ones h2 i hi hne]

theorem hasBatch_iff (s : Shape) : s.hasBatch = true ↔ 1 < s.batch := by
  unfold Shape.hasBatch; simp

theorem sub32_eq_of_le {a b : Nat} (hb : b ≤ a) (ha : a < W) : sub32 a b = a - b := by
  unfold sub32
  rw [Nat.mod_eq_of_lt (by omega : b < W)]
  have : a + W - b = (a - b) + W := by omega
  rw [this, Nat.add_mod_right, Nat.mod_eq_of_lt (by omega)]

theorem slice_ok {x y : Shape} {dim lower upper : Nat} (hx : WF x) (h : ShapeOps.slice x dim lower upper = .ok y) :
    lower < upper ∧ upper ≤ x.get dim ∧ WF y ∧ y.batch = x.batch ∧
    (∀ i, y.get i = if i = dim then upper - lower else x.get i) := by
  unfold ShapeOps.slice at h
  have ⟨hc, h⟩ := ite_ok h
  have hlu : lower < upper ∧ upper ≤ x.get dim := by omega
  split at h
  · rename_i hd
    obtain rfl := Except.ok.inj h
    have h1 : x.get dim = 1 := get_of_ge hd
    refine ⟨hlu.1, hlu.2, hx, rfl, fun i => ?_⟩
    split
    · rename_i e; subst e; omega
    · rfl
  · rw [sub32_eq_of_le (by omega) (Nat.lt_of_le_of_lt hlu.2 (hx.get_lt dim))] at h
    have ⟨_, _, hy, hb, hg, _⟩ := updateDim_ok hx h
    exact ⟨hlu.1, hlu.2, hy, hb, hg⟩

theorem broadcast_ok {x y : Shape} {dim size : Nat} (hx : WF x) (h : ShapeOps.broadcast x dim size = .ok y) :
    dim < 8 ∧ x.get dim = 1 ∧ 0 < size ∧ WF y ∧ y.batch = x.batch ∧
    (∀ i, y.get i = if i = dim then size else x.get i) := by
  have ⟨hc, h⟩ := ite_ok h
  have ⟨h8, hm, hy, hb, hg, _⟩ := updateDim_ok hx h
  exact ⟨h8, by omega, hm, hy, hb, hg⟩

/-- every id passed the range check of `pick` / `batch_pick` -/
theorem ids_lt {ids : List Nat} {n : Nat} (h : ¬ (ids.any fun i => decide (i ≥ n)) = true) : ∀ i ∈ ids, i < n := by
  intro i hi
  simp only [List.any_eq_true, decide_eq_true_eq, not_exists, not_and] at h
  have := h i hi; omega

theorem pick_ok {x y : Shape} {ids : List Nat} {dim : Nat} (hx : WF x) (h : ShapeOps.pick x ids dim = .ok y) :
    dim < 8 ∧ 0 < ids.length % W ∧ (x.batch = ids.length % W ∨ x.batch = 1 ∨ ids.length % W = 1) ∧
    (∀ i ∈ ids, i < x.get dim) ∧ WF y ∧ y.batch = max x.batch (ids.length % W) ∧
    (∀ i, y.get i = if i = dim then 1 else x.get i) := by
  have ⟨hc, h⟩ := ite_ok h
  have ⟨hids, h⟩ := ite_ok h
  obtain ⟨r, h1, h⟩ := bind_ok.mp h
  have ⟨h8, _, hr, hrb, hrg, _⟩ := updateDim_ok hx h1
  have ⟨hy, hyb, hyd, _⟩ := updateBatch_ok hr h
  have := hx.bpos
  simp only [hasBatch_iff] at hc
  exact ⟨h8, by omega, by omega, ids_lt hids, hy, hyb, fun i => by rw [get_eq_of_dims hyd, hrg]⟩

theorem batchPick_ok {x y : Shape} {ids : List Nat} (hx : WF x) (h : ShapeOps.batchPick x ids = .ok y) :
    0 < ids.length % W ∧ (∀ i ∈ ids, i < x.batch) ∧ WF y ∧ y.batch = ids.length % W ∧ y.dims = x.dims ∧
    y.volume = x.volume := by
  have ⟨h0, h⟩ := ite_ok h
  have ⟨hids, h⟩ := ite_ok h
  have ⟨hy, hb, hd, hv⟩ := updateBatch_ok hx h
  exact ⟨by omega, ids_lt hids, hy, hb, hd, hv⟩

theorem batchSlice_ok {x y : Shape} {lower upper : Nat} (hx : WF x) (h : ShapeOps.batchSlice x lower upper = .ok y) :
    lower < upper ∧ upper ≤ x.batch ∧ WF y ∧ y.batch = upper - lower ∧ y.dims = x.dims ∧ y.volume = x.volume := by
  have ⟨hc, h⟩ := ite_ok h
  have hb := hx.batch_lt
  rw [sub32_eq_of_le (by omega) (by omega)] at h
  have ⟨hy, hyb, hd, hv⟩ := updateBatch_ok hx h
  exact ⟨by omega, by omega, hy, hyb, hd, hv⟩

/-- `s` seen from axis `d`: `L` elements below, `n` on the axis, `U` above, `B` samples -/
structure View (s : Shape) (d L n U B : Nat) : Prop where
  lower : s.lowerVolume d = L
  get : s.get d = n
  volume : s.volume = L * n * U
  batch : s.batch = B
  size : s.size = L * n * U * B
  hL : 0 < L
  hn : 0 < n
  hU : 0 < U
  hB : 0 < B

theorem View.size_div_get {s : Shape} {d L n U B : Nat} (v : View s d L n U B) : s.size / n = L * (U * B) := by
  rw [v.size, show L * n * U * B = n * (L * (U * B)) by ring, Nat.mul_div_cancel_left _ v.hn]

theorem WF.toView {s : Shape} (h : WF s) (d : Nat) : View s d (lo s d) (s.get d) (up s d) s.batch :=
  ⟨h.lowerVolume_eq d, rfl, h.view d, rfl, by rw [h.size_eq, h.view d], lo_pos h d, h.pos d, up_pos h d, h.bpos⟩

theorem view_of_update {x y : Shape} {d m : Nat} (hy : WF y)
    (hg : ∀ i, y.get i = if i = d then m else x.get i) : View y d (lo x d) m (up x d) y.batch := by
  have h := hy.toView d
  have e1 : lo y d = lo x d := lo_eq_of_get (fun i hi => by rw [hg i, if_neg (by omega)])
  have e2 : up y d = up x d := up_eq_of_get (fun i hi => by rw [hg i, if_neg (by omega)])
  have e3 : y.get d = m := by rw [hg d, if_pos rfl]
  rwa [e1, e2, e3] at h

def oneSample (s : Shape) : Shape := { s with batch := 1 }

theorem oneSample_wf {s : Shape} (h : WF s) : WF (oneSample s) :=
  ⟨h.depth_le, h.pos, Nat.one_pos, h.vol, by show s.volume * 1 < W; rw [Nat.mul_one]; exact h.vol_lt⟩

end Primitiv.MoveShape
