import PrimitivModel.Lemmas.MoveKernels
/-
What each shape-level front-end (`Move.Front.*`) returns on well-formed shapes:
the guard that was passed, the output shape, and the loop parameters as numbers
`L = lo x dim` (elements below the axis), `n = x.get dim`, `U = up x dim`
(elements above the axis), `B` (samples).
-/
namespace Primitiv.Move.Front
open Primitiv Primitiv.Move Primitiv.MoveShape

theorem sliceFw_plan {x ys : Shape} {dim lower upper : Nat} {m : Moves} (hx : WF x)
    (h : sliceFw x dim lower upper = .ok (ys, m)) :
    lower < upper ∧ upper ≤ x.get dim ∧ WF ys ∧ ys.batch = x.batch ∧
    (∀ i, ys.get i = if i = dim then upper - lower else x.get i) ∧
    m = sliceFwMoves (lo x dim) (lo x dim * (upper - lower)) (lo x dim * x.get dim) (up x dim * x.batch) lower ∧
    x.size = lo x dim * x.get dim * (up x dim * x.batch) ∧
    ys.size = lo x dim * (upper - lower) * (up x dim * x.batch) := by
  obtain ⟨y, h1, h⟩ := bind_ok.mp h
  obtain ⟨rfl, rfl⟩ := Prod.mk.inj (Except.ok.inj h)
  have ⟨hlu, hup, hy, hb, hg⟩ := slice_ok hx h1
  have vy := view_of_update hy hg
  have vx := hx.toView dim
  refine ⟨hlu, hup, hy, hb, hg, ?_, by rw [vx.size]; ring, by rw [vy.size, hb]; ring⟩
  rw [vy.lower, vy.get, vy.size, hb, Nat.mul_assoc (lo x dim * (upper - lower)),
    Nat.mul_div_cancel_left _ (Nat.mul_pos vy.hL vy.hn)]

theorem flipFw_plan {x ys : Shape} {dim : Nat} {m : Moves} (hx : WF x) (h : flipFw x dim = .ok (ys, m)) :
    ys = x ∧ m = flipMoves (x.get dim) (lo x dim) (lo x dim * (up x dim * x.batch)) ∧
    x.size = lo x dim * x.get dim * (up x dim * x.batch) := by
  obtain ⟨rfl, rfl⟩ := Prod.mk.inj (Except.ok.inj h)
  have vx := hx.toView dim
  exact ⟨rfl, by rw [vx.lower, vx.size_div_get], by rw [vx.size]; ring⟩

theorem flipBw_plan {gy gx : Shape} {dim : Nat} {m : Moves} (hy : WF gy) (hx : WF gx) (h : flipBw gy gx dim = .ok m) :
    gy.batch = gx.batch ∧ gy.size = gx.size ∧ m = flipMoves (gx.get dim) (lo gx dim) (lo gx dim * (up gx dim * gx.batch)) ∧
    gx.size = lo gx dim * gx.get dim * (up gx dim * gx.batch) := by
  have ⟨he, h⟩ := ite_ok h
  obtain rfl := Except.ok.inj h
  have hp := flipFw_plan hx (dim := dim) rfl
  exact ⟨(eq_get (eq_true_of_not_bnot he)).2, (size_eq_of_eq hy hx (eq_true_of_not_bnot he)).2, hp.2.1, hp.2.2⟩

/-- sum_fw, max_fw, min_fw -/
theorem reduceFw_plan {x ys : Shape} {dim : Nat} {r : Reduce} (hx : WF x) (h : reduceFw x dim = .ok (ys, r)) :
    dim < 8 ∧ WF ys ∧ ys.batch = x.batch ∧ (∀ i, ys.get i = if i = dim then 1 else x.get i) ∧
    r = axisReduce (lo x dim * (up x dim * x.batch)) (x.get dim) (lo x dim) ∧
    x.size = lo x dim * x.get dim * (up x dim * x.batch) ∧ ys.size = lo x dim * (up x dim * x.batch) := by
  obtain ⟨y, h1, h⟩ := bind_ok.mp h
  obtain ⟨rfl, rfl⟩ := Prod.mk.inj (Except.ok.inj h)
  have ⟨h8, _, hy, hb, hg, _⟩ := updateDim_ok hx h1
  have vy := view_of_update hy hg
  have vx := hx.toView dim
  refine ⟨h8, hy, hb, hg, ?_, by rw [vx.size]; ring, by rw [vy.size, hb]; ring⟩
  rw [vy.lower, vy.size, hb]
  congr 1; ring

theorem broadcastFw_plan {x ys : Shape} {dim size : Nat} {m : Moves} (hx : WF x)
    (h : broadcastFw x dim size = .ok (ys, m)) :
    dim < 8 ∧ x.get dim = 1 ∧ 0 < size ∧ WF ys ∧ ys.batch = x.batch ∧
    (∀ i, ys.get i = if i = dim then size else x.get i) ∧
    m = broadcastMoves (lo x dim * (up x dim * x.batch)) (lo x dim) size ∧
    x.size = lo x dim * (up x dim * x.batch) ∧ ys.size = lo x dim * size * (up x dim * x.batch) := by
  obtain ⟨y, h1, h⟩ := bind_ok.mp h
  obtain ⟨rfl, rfl⟩ := Prod.mk.inj (Except.ok.inj h)
  have ⟨h8, h1', hs, hy, hb, hg⟩ := broadcast_ok hx h1
  have vy := view_of_update hy hg
  have vx := hx.toView dim
  have hxs : x.size = lo x dim * (up x dim * x.batch) := by rw [vx.size, h1']; ring
  exact ⟨h8, h1', hs, hy, hb, hg, by rw [vy.lower, hxs], hxs, by rw [vy.size, hb]; ring⟩

/-- argmax / argmin: no guard at all -/
theorem argReduce_plan {x : Shape} (hx : WF x) (dim : Nat) :
    argReduce x dim = axisReduce (lo x dim * (up x dim * x.batch)) (x.get dim) (lo x dim) ∧
    x.size = lo x dim * x.get dim * (up x dim * x.batch) := by
  have vx := hx.toView dim
  exact ⟨by unfold argReduce; rw [vx.lower, vx.size_div_get], by rw [vx.size]; ring⟩

theorem b2n_hasBatch (s : Shape) (hs : WF s) : b2n s.hasBatch = if s.batch = 1 then 0 else 1 := by
  have := hs.bpos
  unfold b2n Shape.hasBatch
  by_cases h : s.batch = 1
  · simp [h]
  · have : s.batch > 1 := by omega
    simp [h, this]

theorem pickFw_plan {x ys : Shape} {ids : List Nat} {dim : Nat} {m : Moves} (hx : WF x) (hlen : ids.length < W)
    (h : pickFw x ids dim = .ok (ys, m)) :
    dim < 8 ∧ 0 < ids.length ∧ (x.batch = ids.length ∨ x.batch = 1 ∨ ids.length = 1) ∧
    (∀ i ∈ ids, i < x.get dim) ∧ WF ys ∧ ys.batch = max x.batch ids.length ∧
    (∀ i, ys.get i = if i = dim then 1 else x.get i) ∧
    m = pickMoves (max x.batch ids.length) ((if x.batch = 1 then 0 else 1) * (lo x dim * x.get dim * up x dim))
          (b2n (ids.length > 1)) (lo x dim) (lo x dim * x.get dim) (up x dim) ids ∧
    x.size = lo x dim * x.get dim * up x dim * x.batch ∧
    ys.size = lo x dim * up x dim * max x.batch ids.length := by
  obtain ⟨y, h1, h⟩ := bind_ok.mp h
  obtain ⟨rfl, rfl⟩ := Prod.mk.inj (Except.ok.inj h)
  have ⟨h8, hpos, hcomp, hids, hy, hb, hg⟩ := pick_ok hx h1
  rw [Nat.mod_eq_of_lt hlen] at hpos hcomp hb
  have vy := view_of_update hy hg
  have vx := hx.toView dim
  refine ⟨h8, hpos, hcomp, hids, hy, hb, hg, ?_, vx.size, by rw [vy.size, hb]; ring⟩
  rw [vy.lower, vy.volume, hb, b2n_hasBatch x hx, vx.volume, Nat.mul_one, Nat.mul_div_cancel_left _ vy.hL]

theorem pickBw_plan {gy gx : Shape} {ids : List Nat} {dim : Nat} {m : Moves} (hy : WF gy) (hx : WF gx)
    (hlen : ids.length < W) (h : pickBw gy gx ids dim = .ok m) :
    dim < 8 ∧ 0 < ids.length ∧ (gx.batch = ids.length ∨ gx.batch = 1 ∨ ids.length = 1) ∧
    (∀ i ∈ ids, i < gx.get dim) ∧ gy.batch = max gx.batch ids.length ∧
    (∀ i, gy.get i = if i = dim then 1 else gx.get i) ∧
    m = (pickMoves (max gx.batch ids.length) ((if gx.batch = 1 then 0 else 1) * (lo gx dim * gx.get dim * up gx dim))
          (b2n (ids.length > 1)) (lo gx dim) (lo gx dim * gx.get dim) (up gx dim) ids).swap ∧
    gx.size = lo gx dim * gx.get dim * up gx dim * gx.batch ∧
    gy.size = lo gx dim * up gx dim * max gx.batch ids.length := by
  obtain ⟨sy, h1, h⟩ := bind_ok.mp h
  have ⟨he, h⟩ := ite_ok h
  obtain rfl := Except.ok.inj h
  have ⟨h8, hpos, hcomp, hids, hsy, hb, hg⟩ := pick_ok hx h1
  rw [Nat.mod_eq_of_lt hlen] at hpos hcomp hb
  have ⟨hge, hbe⟩ := eq_get (eq_true_of_not_bnot he)
  have hgy : ∀ i, gy.get i = if i = dim then 1 else gx.get i := fun i => by rw [hge, hg]
  have vy := view_of_update hy hgy
  have vx := hx.toView dim
  refine ⟨h8, hpos, hcomp, hids, by rw [hbe, hb], hgy, ?_, vx.size, by rw [vy.size, hbe, hb]; ring⟩
  rw [vy.lower, vy.volume, hbe, hb, b2n_hasBatch gx hx, vx.volume, Nat.mul_one, Nat.mul_div_cancel_left _ vy.hL]

theorem compat_of {a b : Shape} (h : a.hasCompatibleBatch b = true) :
    a.batch = b.batch ∨ a.batch = 1 ∨ b.batch = 1 := by
  unfold Shape.hasCompatibleBatch at h
  simp only [Bool.or_eq_true, beq_iff_eq] at h
  rcases h with (a | a) | a <;> simp [a]

/-- the guard subtracts instead of adding `offset + syd`, so that nothing wraps -/
theorem sliceBwGuard_iff {syd sxd offset : Nat} (h1 : sxd < W) :
    sliceBwGuard syd sxd offset = false ↔ offset + syd ≤ sxd := by
  unfold sliceBwGuard
  simp only [Bool.or_eq_false_iff, decide_eq_false_iff_not, Nat.not_lt]
  constructor
  · intro ⟨a, b⟩
    rw [sub32_eq_of_le a h1] at b; omega
  · intro h
    have : offset ≤ sxd := by omega
    exact ⟨this, by rw [sub32_eq_of_le this h1]; omega⟩

theorem sliceBw_plan {sy sx : Shape} {dim offset : Nat} {p : SliceBwPlan} (hy : WF sy) (hx : WF sx)
    (h : sliceBw sy sx dim offset = .ok p) :
    (∀ i, i ≠ dim → sy.get i = sx.get i) ∧ (sy.batch = sx.batch ∨ sy.batch = 1 ∨ sx.batch = 1) ∧
    offset + sy.get dim ≤ sx.get dim ∧
    sx.size = lo sx dim * sx.get dim * up sx dim * sx.batch ∧
    sy.size = lo sx dim * sy.get dim * up sx dim * sy.batch ∧
    ((sx.depth ≤ dim ∧ sy.get dim = 1 ∧ sx.get dim = 1 ∧ offset = 0 ∧
        p = .inplaceAdd (inplaceAddMoves (lo sx dim * up sx dim) (max sy.batch sx.batch)
              ((if sx.batch = 1 then 0 else 1) * (lo sx dim * up sx dim))
              ((if sy.batch = 1 then 0 else 1) * (lo sx dim * up sx dim)))) ∨
     (dim < sx.depth ∧
        p = .kernel (sliceBwMoves (lo sx dim) (lo sx dim * sy.get dim) (lo sx dim * sx.get dim) (up sx dim)
              (max sx.batch sy.batch) ((if sx.batch = 1 then 0 else 1) * (lo sx dim * sx.get dim * up sx dim))
              ((if sy.batch = 1 then 0 else 1) * (lo sx dim * sy.get dim * up sx dim)) offset))) := by
  obtain ⟨loo, h1, h2⟩ := bind_ok.mp h
  have ⟨hc, h3⟩ := ite_ok h2
  simp only [Bool.or_eq_true, not_or, Bool.not_eq_true] at hc
  obtain ⟨⟨hloo, hcb⟩, hguard⟩ := hc
  obtain rfl : loo = true := by simpa using hloo
  have hget := hasSameLooDims_get h1
  have hg := (sliceBwGuard_iff (hx.get_lt dim)).mp hguard
  have vx := hx.toView dim
  have vy0 := hy.toView dim
  rw [lo_eq_of_get (fun i hi => hget i (by omega)), up_eq_of_get (fun i hi => hget i (by omega))] at vy0
  refine ⟨hget, compat_of (by simpa using hcb), hg, vx.size, vy0.size, ?_⟩
  split at h3 <;> obtain rfl := Except.ok.inj h3 <;> rename_i hd
  · left
    have hx1 : sx.get dim = 1 := get_of_ge hd
    have hy1 : sy.get dim = 1 := by have := hy.pos dim; omega
    refine ⟨hd, hy1, hx1, by omega, ?_⟩
    rw [b2n_hasBatch sx hx, b2n_hasBatch sy hy, vx.volume, hx1, Nat.mul_one]
  · right
    refine ⟨by omega, ?_⟩
    rw [vx.lower, b2n_hasBatch sx hx, b2n_hasBatch sy hy, vx.volume, vy0.volume,
      Nat.mul_div_cancel_left _ (Nat.mul_pos vx.hL vx.hn)]

theorem maxBw_plan {x y gy gx : Shape} {dim : Nat} {r : Reduce} (hx : WF x) (hy : WF y) (hgy : WF gy) (hgx : WF gx)
    (h : maxBw x y gy gx dim = .ok r) :
    dim < 8 ∧ gy.batch = gx.batch ∧ (∀ i, y.get i = if i = dim then 1 else x.get i) ∧
    r = axisReduce (lo x dim * (up x dim * x.batch)) (x.get dim) (lo x dim) ∧
    x.size = lo x dim * x.get dim * (up x dim * x.batch) ∧ gx.size = x.size ∧
    y.size = lo x dim * (up x dim * x.batch) ∧ gy.size = y.size := by
  obtain ⟨s, h1, h⟩ := bind_ok.mp h
  have ⟨hc, h⟩ := ite_ok h
  obtain rfl := Except.ok.inj h
  simp only [Bool.or_eq_true, not_or] at hc
  obtain ⟨⟨c1, c2⟩, c3⟩ := hc
  have c1 := eq_true_of_not_bnot c1; have c2 := eq_true_of_not_bnot c2; have c3 := eq_true_of_not_bnot c3
  have ⟨h8, _, hs, hb, hg, _⟩ := updateDim_ok hx h1
  have ⟨hyg, hyb⟩ := eq_get c2
  have hyg' : ∀ i, y.get i = if i = dim then 1 else x.get i := fun i => by rw [hyg, hg]
  have vy := view_of_update hy hyg'
  have vx := hx.toView dim
  refine ⟨h8, by rw [(eq_get c3).2, hb, (eq_get c1).2], hyg', ?_, by rw [vx.size]; ring, (size_eq_of_eq hgx hx c1).2, by rw [vy.size, hyb, hb]; ring, ?_⟩
  · rw [vy.lower, vy.size, hyb, hb]; congr 1; ring
  · rw [(size_eq_of_eq hgy hs c3).2, (size_eq_of_eq hy hs c2).2]

theorem batchPickFw_plan {x ys : Shape} {ids : List Nat} {m : Moves} (hx : WF x) (hlen : ids.length < W)
    (h : batchPickFw x ids = .ok (ys, m)) :
    0 < ids.length ∧ (∀ i ∈ ids, i < x.batch) ∧ WF ys ∧ ys.batch = ids.length ∧ ys.dims = x.dims ∧
    m = batchPickMoves ids.length x.volume ids ∧
    x.size = x.volume * x.batch ∧ ys.size = x.volume * ids.length := by
  obtain ⟨y, h1, h⟩ := bind_ok.mp h
  obtain ⟨rfl, rfl⟩ := Prod.mk.inj (Except.ok.inj h)
  have ⟨hpos, hids, hy, hb, hd, hv⟩ := batchPick_ok hx h1
  rw [Nat.mod_eq_of_lt hlen] at hpos hb
  exact ⟨hpos, hids, hy, hb, hd, by rw [hb], hx.size_eq, by rw [hy.size_eq, hv, hb]⟩

theorem dims_eq_of_eq {a b : Shape} (h : a.eq b = true) : ∀ i, a.get i = b.get i := (eq_get h).1

theorem batchPickBw_plan {gy gx : Shape} {ids : List Nat} {m : Moves} (hy : WF gy) (hx : WF gx) (hlen : ids.length < W)
    (h : batchPickBw gy gx ids = .ok m) :
    0 < ids.length ∧ (∀ i ∈ ids, i < gx.batch) ∧ gy.batch = ids.length ∧ (∀ i, gy.get i = gx.get i) ∧
    m = (batchPickMoves ids.length gx.volume ids).swap ∧
    gx.size = gx.volume * gx.batch ∧ gy.size = gx.volume * ids.length := by
  obtain ⟨sy, h1, h⟩ := bind_ok.mp h
  have ⟨he, h⟩ := ite_ok h
  obtain rfl := Except.ok.inj h
  have he' := eq_true_of_not_bnot he
  have ⟨hpos, hids, hsy, hb, hd, hv⟩ := batchPick_ok hx h1
  rw [Nat.mod_eq_of_lt hlen] at hpos hb
  have ⟨hge, hbe⟩ := eq_get he'
  have hvol : gy.volume = gx.volume := by rw [(size_eq_of_eq hy hsy he').1, hv]
  exact ⟨hpos, hids, by rw [hbe, hb], fun i => by rw [hge, get_eq_of_dims hd], by rw [hbe, hb], hx.size_eq,
    by rw [hy.size_eq, hvol, hbe, hb]⟩

theorem batchSliceFw_plan {x ys : Shape} {lower upper : Nat} {m : Moves} (hx : WF x)
    (h : batchSliceFw x lower upper = .ok (ys, m)) :
    lower < upper ∧ upper ≤ x.batch ∧ WF ys ∧ ys.batch = upper - lower ∧ ys.dims = x.dims ∧
    m = batchSliceFwMoves x.volume (upper - lower) lower ∧
    x.size = x.volume * x.batch ∧ ys.size = x.volume * (upper - lower) := by
  obtain ⟨y, h1, h⟩ := bind_ok.mp h
  obtain ⟨rfl, rfl⟩ := Prod.mk.inj (Except.ok.inj h)
  have ⟨hl, hu, hy, hb, hd, hv⟩ := batchSlice_ok hx h1
  exact ⟨hl, hu, hy, hb, hd, by rw [hv, hb], hx.size_eq, by rw [hy.size_eq, hv, hb]⟩

theorem batchSliceBw_plan {sy sx : Shape} {offset : Nat} {m : Moves} (hy : WF sy) (hx : WF sx)
    (h : batchSliceBw sy sx offset = .ok m) :
    (∀ i, sy.get i = sx.get i) ∧ offset + sy.batch ≤ sx.batch ∧ sy.volume = sx.volume ∧
    m = batchSliceBwMoves sx.volume sy.batch offset ∧
    sx.size = sx.volume * sx.batch ∧ sy.size = sx.volume * sy.batch := by
  have ⟨hc, h⟩ := ite_ok h
  obtain rfl := Except.ok.inj h
  simp only [Bool.or_eq_true, not_or, Bool.not_eq_true, Bool.not_eq_false'] at hc
  have hg := hasSameDims_get hc.1
  have hv := volume_eq_of_get hy hx hg
  exact ⟨hg, (sliceBwGuard_iff hx.batch_lt).mp hc.2, hv, by rw [hv], hx.size_eq, by rw [hy.size_eq, hv]⟩

theorem batchSumFw_plan {x ys : Shape} {r : Reduce} (hx : WF x) (h : batchSumFw x = .ok (ys, r)) :
    WF ys ∧ ys.batch = 1 ∧ ys.dims = x.dims ∧ r = batchSumReduce x.volume x.batch ∧
    x.size = x.volume * x.batch ∧ ys.size = x.volume := by
  obtain ⟨y, h1, h⟩ := bind_ok.mp h
  obtain ⟨rfl, rfl⟩ := Prod.mk.inj (Except.ok.inj h)
  have ⟨hy, hb, hd, hv⟩ := updateBatch_ok hx h1
  have hs : y.size = x.volume := by rw [hy.size_eq, hv, hb, Nat.mul_one]
  exact ⟨hy, hb, hd, by rw [hs], hx.size_eq, hs⟩

theorem matrix_volume {x : Shape} (hx : WF x) (hm : x.isMatrix = true) : x.volume = x.get 0 * x.get 1 := by
  unfold Shape.isMatrix at hm
  simp only [decide_eq_true_eq] at hm
  rw [volume_eq_pi hx (n := 2) (fun k hk => get_of_ge (by unfold Shape.depth at hm; omega)) (by decide)]
  simp [pi]

theorem transposeFw_plan {x ys : Shape} {m : Moves} (hx : WF x) (h : transposeFw x = .ok (ys, m)) :
    x.isMatrix = true ∧ WF ys ∧ ys.batch = x.batch ∧ ys.get 0 = x.get 1 ∧ ys.get 1 = x.get 0 ∧
    (∀ i, 2 ≤ i → ys.get i = 1) ∧
    m = transposeMoves (x.get 0) (x.get 1) x.batch ∧
    x.size = x.get 0 * x.get 1 * x.batch ∧ ys.size = x.get 0 * x.get 1 * x.batch := by
  obtain ⟨y, h1, h⟩ := bind_ok.mp h
  obtain ⟨rfl, rfl⟩ := Prod.mk.inj (Except.ok.inj h)
  have ⟨hm, h1⟩ := ite_ok h1
  have hm' := eq_true_of_not_bnot hm
  have ⟨hy, hb, hg, _, hlen⟩ := new_ok h1
  have g0 : y.get 0 = x.get 1 := hg 0
  have g1 : y.get 1 = x.get 0 := hg 1
  have g2 : ∀ i, 2 ≤ i → y.get i = 1 := fun i hi => get_of_ge (Nat.le_trans hlen hi)
  have hym : y.isMatrix = true := decide_eq_true hlen
  refine ⟨hm', hy, hb, g0, g1, g2, by rw [hb], ?_, ?_⟩
  · rw [hx.size_eq, matrix_volume hx hm']
  · rw [hy.size_eq, matrix_volume hy hym, g0, g1, hb]; ring

theorem transposeBwGuard_plan {x y gy gx : Shape} (hx : WF x) (h : transposeBwGuard x y gy gx = .ok ()) :
    x.isMatrix = true ∧ ((∀ i, x.get i = gx.get i) ∧ x.batch = gx.batch) ∧
    ((∀ i, y.get i = gy.get i) ∧ y.batch = gy.batch) ∧ y.get 0 = x.get 1 ∧ y.get 1 = x.get 0 ∧ y.batch = x.batch := by
  have ⟨hc, h⟩ := ite_ok h
  simp only [Bool.or_eq_true, not_or] at hc
  obtain ⟨s, hS, h⟩ := bind_ok.mp h
  have ⟨hc3, _⟩ := ite_ok h
  have ⟨ysg, ysb⟩ := eq_get (eq_true_of_not_bnot hc3)
  have hF : transposeFw x = .ok (s, transposeMoves (x.get 0) (x.get 1) s.batch) := by
    unfold transposeFw; rw [hS]; rfl
  obtain ⟨hm, _, hsb, s0, s1, _⟩ := transposeFw_plan hx hF
  exact ⟨hm, eq_get (eq_true_of_not_bnot hc.1), eq_get (eq_true_of_not_bnot hc.2), by rw [ysg, s0], by rw [ysg, s1], by rw [ysb, hsb]⟩

theorem identity_plan {size : Nat} {ys : Shape} (h : identity size = .ok ys) :
    0 < size ∧ ys.batch = 1 ∧ ys.get 0 = size ∧ ys.get 1 = size ∧ ys.size = size * size := by
  have ⟨h0, h⟩ := ite_ok h
  have ⟨hy, hb, hg, _, hlen⟩ := new_ok h
  have g0 : ys.get 0 = size := hg 0
  have g1 : ys.get 1 = size := hg 1
  exact ⟨by omega, hb, g0, g1, by rw [hy.size_eq, matrix_volume hy (decide_eq_true hlen), hb, g0, g1, Nat.mul_one]⟩

def batchesBefore (xs : List Shape) (p : Nat) : Nat := ((xs.take p).map (·.batch)).sum

theorem batchConcatLoop_ok {s0 : Shape} {l : List Shape} {sum r : Nat} (h : ShapeOps.batchConcatLoop s0 l sum = .ok r) :
    r = sum + (l.map (·.batch)).sum ∧ ∀ s ∈ l, ∀ i, s0.get i = s.get i := by
  induction l generalizing sum with
  | nil =>
    obtain rfl := Except.ok.inj h
    exact ⟨by simp, fun s hs => by cases hs⟩
  | cons s rest ih =>
    have ⟨hc, h⟩ := ite_ok h
    obtain ⟨e, hall⟩ := ih h
    refine ⟨by rw [e]; simp; omega, ?_⟩
    intro s' hs'
    rcases List.mem_cons.mp hs' with rfl | h'
    · exact hasSameDims_get (eq_true_of_not_bnot hc)
    · exact hall s' h'

theorem batchConcatPlan_length (xs : List Shape) (off : Nat) : (batchConcatPlan xs off).length = xs.length := by
  induction xs generalizing off with
  | nil => rfl
  | cons x rest ih => simp [batchConcatPlan, ih]

theorem batchConcatPlan_get (xs : List Shape) (off p : Nat) (hp : p < xs.length) :
    (batchConcatPlan xs off)[p]'(by rw [batchConcatPlan_length]; exact hp) =
      batchConcatMoves (off + ((xs.take p).map (·.size)).sum) xs[p].size := by
  induction xs generalizing off p with
  | nil => simp at hp
  | cons x rest ih =>
    cases p with
    | zero => simp [batchConcatPlan]
    | succ p =>
      have hp2 : p < rest.length := by simpa using hp
      simp only [batchConcatPlan, List.getElem_cons_succ, List.take_succ_cons, List.map_cons, List.sum_cons]
      rw [ih (off + x.size) p hp2]; congr 1; omega

theorem batchConcatFw_plan {xs : List Shape} {ys : Shape} {ms : List Moves} (hxs : ∀ s ∈ xs, WF s)
    (h : batchConcatFw xs = .ok (ys, ms)) :
    ∃ x0 rest, xs = x0 :: rest ∧ WF ys ∧ ys.dims = x0.dims ∧ ys.volume = x0.volume ∧
      ys.batch = (xs.map (·.batch)).sum ∧ ys.size = x0.volume * (xs.map (·.batch)).sum ∧
      ms = batchConcatPlan xs 0 ∧ ∀ s ∈ xs, s.volume = x0.volume ∧ s.size = x0.volume * s.batch := by
  have ⟨_, h⟩ := ite_ok h
  obtain ⟨y, hB, h⟩ := bind_ok.mp h
  obtain ⟨rfl, rfl⟩ := Prod.mk.inj (Except.ok.inj h)
  cases xs with
  | nil => cases hB
  | cons x0 rest =>
    obtain ⟨sum, hL, hB⟩ := bind_ok.mp hB
    have ⟨_, hB⟩ := ite_ok hB
    have hx0 := hxs x0 List.mem_cons_self
    obtain ⟨hy, hb, hd, hv⟩ := updateBatch_ok hx0 hB
    obtain ⟨hsum, hall⟩ := batchConcatLoop_ok hL
    have hbs : y.batch = ((x0 :: rest).map (·.batch)).sum := by rw [hb, hsum]; simp
    refine ⟨x0, rest, rfl, hy, hd, hv, hbs, by rw [hy.size_eq, hv, hbs], rfl, ?_⟩
    intro s hs
    have hsw := hxs s hs
    have hvol : s.volume = x0.volume := by
      rcases List.mem_cons.mp hs with rfl | h'
      · rfl
      · exact (volume_eq_of_get hx0 hsw (hall s h')).symm
    exact ⟨hvol, by rw [hsw.size_eq, hvol]⟩

theorem concatLoop_ok {dim : Nat} {l : List Shape} {s0 sf : Shape} {sum sumf : Nat} (hs0 : WF s0)
    (h : ShapeOps.concatLoop dim l (s0, sum) = .ok (sf, sumf)) :
    WF sf ∧ sf.dims = s0.dims ∧ sf.volume = s0.volume ∧ sumf = sum + (l.map (·.get dim)).sum ∧
    (∀ s ∈ l, (∀ i, i ≠ dim → s0.get i = s.get i) ∧ (s.batch = 1 ∨ s.batch = sf.batch)) ∧
    (s0.batch = 1 ∨ s0.batch = sf.batch) := by
  induction l generalizing s0 sum with
  | nil =>
    obtain ⟨rfl, rfl⟩ := Prod.mk.inj (Except.ok.inj h)
    exact ⟨hs0, rfl, rfl, (by simp), (fun s hs => by cases hs), Or.inr rfl⟩
  | cons s rest ih =>
    obtain ⟨loo, hl, h2⟩ := bind_ok.mp h
    have ⟨hc, h3⟩ := ite_ok h2
    simp only [Bool.or_eq_true, not_or] at hc
    obtain rfl : loo = true := eq_true_of_not_bnot hc.1
    have hget := hasSameLooDims_get hl
    have hcomp := compat_of (eq_true_of_not_bnot hc.2)
    have hb := hasBatch_iff s0
    split at h3
    · -- s0 takes the batch of s
      obtain ⟨s0', hu, h⟩ := bind_ok.mp h3
      have hb0 : s0.batch = 1 := by have := hs0.bpos; simp_all; omega
      obtain ⟨w0, b0, d0, v0⟩ := updateBatch_ok hs0 hu
      obtain ⟨w, d, v, e, hall, hbb⟩ := ih w0 h
      refine ⟨w, (by rw [d, d0]), (by rw [v, v0]), (by rw [e]; simp; omega), ?_, Or.inl hb0⟩
      intro s' hs'
      rcases List.mem_cons.mp hs' with rfl | h'
      · exact ⟨hget, by rw [b0] at hbb; exact hbb⟩
      · have := hall s' h'
        exact ⟨fun i hi => by rw [← this.1 i hi, get_eq_of_dims d0], this.2⟩
    · -- s0 keeps its batch
      obtain ⟨w, d, v, e, hall, hbb⟩ := ih hs0 h3
      have hb1 : 1 < s0.batch := by simp_all
      refine ⟨w, d, v, (by rw [e]; simp; omega), ?_, hbb⟩
      intro s' hs'
      rcases List.mem_cons.mp hs' with rfl | h'
      · exact ⟨hget, by omega⟩
      · exact hall s' h'

theorem concatPlan_length (y : Shape) (dim : Nat) (xs : List Shape) (off : Nat) :
    (concatPlan y dim xs off).length = xs.length := by
  induction xs generalizing off with
  | nil => rfl
  | cons x rest ih => simp [concatPlan, ih]

theorem concatPlan_get (y : Shape) (dim : Nat) (xs : List Shape) (off p : Nat) (hp : p < xs.length) :
    (concatPlan y dim xs off)[p]'(by rw [concatPlan_length]; exact hp) =
      concatMoves y.batch (y.lowerVolume dim) (y.lowerVolume dim * y.get dim)
        (y.volume / (y.lowerVolume dim * y.get dim))
        (off + y.lowerVolume dim * ((xs.take p).map (·.get dim)).sum) (xs[p].get dim) (b2n xs[p].hasBatch) := by
  induction xs generalizing off p with
  | nil => simp at hp
  | cons x rest ih =>
    cases p with
    | zero => simp [concatPlan]
    | succ p =>
      have hp2 : p < rest.length := by simpa using hp
      simp only [concatPlan, List.getElem_cons_succ, List.take_succ_cons, List.map_cons, List.sum_cons]
      rw [ih (off + y.lowerVolume dim * x.get dim) p hp2]; congr 1; ring

theorem concatFw_plan {xs : List Shape} {ys : Shape} {ms : List Moves} {dim : Nat} (hxs : ∀ s ∈ xs, WF s)
    (h : concatFw xs dim = .ok (ys, ms)) :
    ∃ x0 rest, xs = x0 :: rest ∧ dim < 8 ∧ WF ys ∧
      (∀ i, ys.get i = if i = dim then (xs.map (·.get dim)).sum else x0.get i) ∧
      (∀ s ∈ xs, (∀ i, i ≠ dim → s.get i = x0.get i) ∧ (s.batch = 1 ∨ s.batch = ys.batch)) ∧
      ms = concatPlan ys dim xs 0 := by
  have ⟨_, h⟩ := ite_ok h
  obtain ⟨y, hB, h⟩ := bind_ok.mp h
  obtain ⟨rfl, rfl⟩ := Prod.mk.inj (Except.ok.inj h)
  cases xs with
  | nil => cases hB
  | cons x0 rest =>
    obtain ⟨⟨sf, sumf⟩, hL, hB⟩ := bind_ok.mp hB
    have ⟨_, hB⟩ := ite_ok hB
    have hx0 := hxs x0 List.mem_cons_self
    obtain ⟨wf, hd, _, hsum, hall, hb0⟩ := concatLoop_ok hx0 hL
    obtain ⟨h8, _, hy, hyb, hyg, _⟩ := updateDim_ok wf hB
    refine ⟨x0, rest, rfl, h8, hy, ?_, ?_, rfl⟩
    · intro i; rw [hyg i]
      split
      · rw [hsum]; simp
      · exact get_eq_of_dims hd i
    · intro s hs
      rcases List.mem_cons.mp hs with rfl | h'
      · exact ⟨fun _ _ => rfl, by rw [hyb]; exact hb0⟩
      · have := hall s h'
        exact ⟨fun i hi => (this.1 i hi).symm, by rw [hyb]; exact this.2⟩

theorem concatFw_entry {xs : List Shape} {ys : Shape} {ms : List Moves} {dim : Nat} (hxs : ∀ s ∈ xs, WF s)
    (h : concatFw xs dim = .ok (ys, ms)) (p : Nat) (hp : p < xs.length) :
    ∃ hp' : p < ms.length,
      ms[p] = concatMoves ys.batch (lo ys dim) (lo ys dim * ys.get dim) (up ys dim)
        (lo ys dim * ((xs.take p).map (·.get dim)).sum) (xs[p].get dim) (if xs[p].batch = 1 then 0 else 1) ∧
      xs[p].size = lo ys dim * xs[p].get dim * up ys dim * xs[p].batch ∧
      ys.size = lo ys dim * ys.get dim * up ys dim * ys.batch ∧
      ys.get dim = (xs.map (·.get dim)).sum ∧ ((xs.take p).map (·.get dim)).sum + xs[p].get dim ≤ ys.get dim ∧
      (xs[p].batch = 1 ∨ xs[p].batch = ys.batch) := by
  obtain ⟨x0, rest, hcons, h8, hy, hyg, hall, rfl⟩ := concatFw_plan hxs h
  have hxp := hxs _ (List.getElem_mem hp)
  have ⟨hgp, hbp⟩ := hall _ (List.getElem_mem hp)
  have vy := hy.toView dim
  have vp := hxp.toView dim
  have e1 : lo xs[p] dim = lo ys dim := lo_eq_of_get (fun i hi => by rw [hgp i (by omega), hyg i, if_neg (by omega)])
  have e2 : up xs[p] dim = up ys dim := up_eq_of_get (fun i hi => by rw [hgp i (by omega), hyg i, if_neg (by omega)])
  have hN : ys.get dim = (xs.map (·.get dim)).sum := by rw [hyg dim, if_pos rfl]
  have hle := take_sum_succ_le (xs.map (·.get dim)) p (by simpa using hp)
  simp only [List.getElem_map, ← List.map_take] at hle
  refine ⟨by rw [concatPlan_length]; exact hp, ?_, by rw [vp.size, e1, e2], vy.size, hN, hN ▸ hle, hbp⟩
  rw [concatPlan_get _ _ _ _ _ hp, vy.lower, vy.volume, b2n_hasBatch _ hxp, Nat.zero_add]
  congr 1
  rw [Nat.mul_comm, Nat.mul_div_cancel _ (Nat.mul_pos vy.hL vy.hn)]

theorem concatFw_entry_tensors {α} {ts : List (Tensor α)} {ys : Shape} {ms : List Moves} {dim : Nat}
    (hts : ∀ s ∈ ts.map (·.shape), WF s) (h : concatFw (ts.map (·.shape)) dim = .ok (ys, ms)) (p : Nat)
    (hp : p < ts.length) :
    ∃ hp' : p < ms.length,
      ms[p] = concatMoves ys.batch (lo ys dim) (lo ys dim * ys.get dim) (up ys dim)
        (lo ys dim * ((ts.take p).map (·.shape.get dim)).sum) (ts[p].shape.get dim)
        (if ts[p].shape.batch = 1 then 0 else 1) ∧
      ((ts.take p).map (·.shape.get dim)).sum + ts[p].shape.get dim ≤ ys.get dim ∧
      (ts[p].shape.batch = 1 ∨ ts[p].shape.batch = ys.batch) := by
  obtain ⟨hp', e, _, _, _, hle, hbp⟩ := concatFw_entry hts h p (by simpa using hp)
  simp only [List.getElem_map, List.map_take, List.map_map, Function.comp_def] at e hle hbp
  exact ⟨hp', by simpa only [List.map_take] using e, by simpa only [List.map_take] using hle, hbp⟩

end Primitiv.Move.Front
