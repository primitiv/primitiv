/-
For C20.  The table theorems decide a predicate of each row (`derefChecked`,
`onlyPointersChecked`) over the generated table; what such a predicate means for
`predict` on every argument pattern is shown here once, for any row, by induction
along its uses.  Likewise the status machine and the size-query helper, for any
handler and helper with the facts `sound` asks for.  Core Lean only.
-/
import PrimitivModel.Model.CApi

namespace Primitiv.CApi

theorem predictAux_other {u : Use} (h1 : u.kind ≠ .check) (h2 : u.kind ≠ .elemCheck) (pat : Nat → ArgPat) (us : List Use) :
    predictAux pat (u :: us) =
      if u.kind.isDeref && pat u.param = .null then .crash
      else if u.kind.isElemDeref && pat u.param = .nullElem then (if u.kind = .rangeString then .errOther else .crash)
      else predictAux pat us := by
  rw [predictAux]; split
  · contradiction
  · contradiction
  · rfl

theorem derefCheckedAux_other {u : Use} (h1 : u.kind ≠ .check) (h2 : u.kind ≠ .elemCheck) (us : List Use) (c e : List Nat) :
    derefCheckedAux (u :: us) c e =
      ((!u.kind.isDeref || c.contains u.param) && (!u.kind.isElemDeref || e.contains u.param)
        && derefCheckedAux us c e) := by
  rw [derefCheckedAux]; split
  · contradiction
  · contradiction
  · rfl

/-- `c` and `e` are the parameters whose null check (element null check) has been passed
so far, so the pattern is not NULL there; `derefCheckedAux` says that every dereference
still to come is of one of them, and each check passed adds its parameter. -/
theorem predictAux_safe (pat : Nat → ArgPat) :
    ∀ (us : List Use) (c e : List Nat),
      derefCheckedAux us c e = true →
      (∀ p ∈ c, pat p ≠ .null) → (∀ p ∈ e, pat p ≠ .nullElem) →
      predictAux pat us ≠ .crash ∧ predictAux pat us ≠ .errOther := by
  intro us
  induction us with
  | nil => intro c e _ _ _; simp [predictAux]
  | cons u us ih =>
    intro c e h hc he
    by_cases h1 : u.kind = .check
    · simp only [derefCheckedAux, h1] at h
      simp only [predictAux, h1]
      split
      · simp
      · rename_i hf
        refine ih (u.param :: c) e h (fun p hp => ?_) he
        rcases List.mem_cons.1 hp with rfl | hp
        · exact fun hn => hf (by simp [hn, ArgPat.falsy])
        · exact hc p hp
    by_cases h2 : u.kind = .elemCheck
    · simp only [derefCheckedAux, h2, Bool.and_eq_true, List.contains_iff_mem] at h
      simp only [predictAux, h2, if_neg (hc _ h.1)]
      split
      · simp
      · rename_i hn
        refine ih c (u.param :: e) h.2 hc (fun p hp => ?_)
        rcases List.mem_cons.1 hp with rfl | hp
        · exact hn
        · exact he p hp
    -- any other use: a dereference of the parameter (of its elements) comes after the check
    simp only [derefCheckedAux_other h1 h2, Bool.and_eq_true, Bool.or_eq_true, Bool.not_eq_true',
      List.contains_iff_mem] at h
    obtain ⟨⟨hd, hed⟩, hrest⟩ := h
    rw [predictAux_other h1 h2, if_neg, if_neg]
    · exact ih c e hrest hc he
    · simp only [Bool.and_eq_true, decide_eq_true_eq]
      exact fun ⟨hk, hn⟩ => he _ (hed.resolve_left (by simp [hk])) hn
    · simp only [Bool.and_eq_true, decide_eq_true_eq]
      exact fun ⟨hk, hn⟩ => hc _ (hd.resolve_left (by simp [hk])) hn

theorem Wrapper.predict_safe (w : Wrapper) (h : w.derefChecked = true) (pat : List ArgPat) :
    w.predict pat ≠ .crash ∧ w.predict pat ≠ .errOther :=
  predictAux_safe _ w.uses [] [] h (by simp) (by simp)

/-- Without NULLs in the pattern a dereference is harmless, and a check can fail only on a
by-value 0 (`ArgPat.zero`), which `hz` places at parameters of pointer depth 0, where
the hypothesis on `us` allows no check. -/
theorem predictAux_pass (depth : Nat → Nat) (pat : Nat → ArgPat)
    (hz : ∀ i, pat i = .zero → depth i = 0)
    (hn : ∀ i, pat i ≠ .null ∧ pat i ≠ .nullElem) :
    ∀ us : List Use,
      (us.all fun u => match u.kind with
        | .check => decide (1 ≤ depth u.param)
        | .elemCheck => decide (2 ≤ depth u.param)
        | _ => true) = true →
      predictAux pat us = .pass := by
  intro us
  induction us with
  | nil => intro _; rfl
  | cons u us ih =>
    intro h
    simp only [List.all_cons, Bool.and_eq_true] at h
    have hnull := (hn u.param).1
    have helem := (hn u.param).2
    by_cases h1 : u.kind = .check
    · -- a checked parameter is a pointer, so its argument is not the by-value 0
      have hd : 1 ≤ depth u.param := by simpa [h1] using h.1
      have hf : (pat u.param).falsy = false := by
        cases hp : pat u.param with
        | zero => have := hz _ hp; omega
        | null => exact absurd hp hnull
        | _ => rfl
      simp only [predictAux, h1, hf, Bool.false_eq_true, if_false]
      exact ih h.2
    by_cases h2 : u.kind = .elemCheck
    · simp only [predictAux, h2, if_neg hnull, if_neg helem]
      exact ih h.2
    simp only [predictAux_other h1 h2, hnull, helem, decide_false, Bool.and_false, Bool.false_eq_true, if_false]
    exact ih h.2

theorem Wrapper.predict_pass (w : Wrapper) (h : w.onlyPointersChecked = true) (pat : List ArgPat)
    (hz : ∀ i, pat.getD i .valid = .zero → w.ptrDepthOf i = 0)
    (hn : ∀ i, pat.getD i .valid ≠ .null ∧ pat.getD i .valid ≠ .nullElem) :
    w.predict pat = .pass :=
  predictAux_pass w.ptrDepthOf _ hz hn w.uses h

namespace CStatus

theorem run_spec (h : HandlerSpec) (hs : h.sound = true) :
    ∀ (ops : List Op) (m : String), run h ⟨m⟩ ops = (⟨specMsg ops m⟩, specRes ops m) := by
  simp only [HandlerSpec.sound, Bool.and_eq_true] at hs
  obtain ⟨⟨⟨⟨⟨⟨h1, h2⟩, h3⟩, _⟩, h5⟩, _⟩, _⟩ := hs
  intro ops
  induction ops with
  | nil => intro m; simp [run, specMsg, specRes]
  | cons o os ih =>
    intro m
    cases o with
    | call t =>
      cases t with
      | none => simp [run, step, specMsg, specRes, ih]
      | some w => simp [run, step, specMsg, specRes, ih, h1, h2]
    | reset => simp [run, step, specMsg, specRes, ih, h3]
    | getMessage => simp [run, step, specMsg, specRes, ih, h5]

theorem run_init (h : HandlerSpec) (hs : h.sound = true) (ops : List Op) :
    run h (init h) ops = (⟨specMsg ops "OK"⟩, specRes ops "OK") := by
  have hi : h.initialOk = true := by
    simp only [HandlerSpec.sound, Bool.and_eq_true] at hs
    exact hs.1.1.1.2
  rw [init, hi]
  exact run_spec h hs ops "OK"

def resultsOf (t : Nat) (ops : List (Nat × Op)) (rs : List Res) : List Res :=
  ((ops.zip rs).filter (fun x => x.1.1 = t)).map (·.2)

theorem runT_proj (h : HandlerSpec) (ht : h.threadLocal = true) (t : Nat) :
    ∀ (ops : List (Nat × Op)) (σ : Sts),
      (runT h σ ops).1 t = (run h (σ t) (proj t ops)).1 ∧
      resultsOf t ops (runT h σ ops).2 = (run h (σ t) (proj t ops)).2 := by
  intro ops
  induction ops with
  | nil => intro σ; exact ⟨rfl, rfl⟩
  | cons o os ih =>
    intro σ
    obtain ⟨k, op⟩ := o
    have := ih (fun j => if j = k then (step h (σ k) op).1 else σ j)
    by_cases hk : k = t
    · subst hk
      simpa [runT, stepT, slot, ht, proj, run, resultsOf] using this
    · have hne : ¬ t = k := fun e => hk e.symm
      simpa [runT, stepT, slot, ht, proj, hk, hne, resultsOf] using this

end CStatus

theorem sizeQuery_contract {α} (h : HelperSpec) (hs : h.sound = true) (src term b : List α) (size : Nat)
    (hterm : term.length = h.writeExtra) (hb : b.length = size) :
    let req := src.length + h.reportExtra
    sizeQuery h src term none size = .ok none req
    ∧ (size < req → sizeQuery h src term (some b) size = .err (some b) size)
    ∧ (req ≤ size → sizeQuery h src term (some b) size = .ok (some (src ++ term ++ b.drop req)) size) := by
  simp only [HelperSpec.sound, Bool.and_eq_true, beq_iff_eq, decide_eq_true_eq] at hs
  obtain ⟨⟨⟨⟨_, hless⟩, heq⟩, hwr⟩, hle⟩ := hs
  -- the guard of the helper amounts to `*size < len + reportExtra`
  have hguard : ((h.errWhenLess && decide (size < src.length)) || (h.errWhenEqual && decide (size = src.length))) = true
      ↔ size < src.length + h.reportExtra := by
    have : h.reportExtra = 0 ∨ h.reportExtra = 1 := by omega
    rw [hless, heq]
    rcases this with h0 | h0 <;> simp [h0] <;> omega
  have htake : term.take h.writeExtra = term := by rw [← hterm]; exact List.take_length
  have hlen : (src ++ term).length = src.length + h.reportExtra := by simp [hterm, hwr]
  refine ⟨rfl, fun hlt => ?_, fun hge => ?_⟩
  · simp only [sizeQuery, if_pos (hguard.2 hlt)]
  · have hfit : src.length + h.reportExtra ≤ b.length := by omega
    simp only [sizeQuery, if_neg (mt hguard.1 (Nat.not_lt.2 hge)), htake, hlen, if_pos hfit]

end Primitiv.CApi
