import PrimitivModel.Lemmas.Msgpack
import PrimitivModel.Spec.Msgpack
/-
The Writer model's length prefixes against the specification's format table
(Spec/Msgpack.lean): always admissible, always a shortest one; signed values
and their two's complement words.  Core Lean only.
-/
namespace Primitiv.Msgpack
open Spec

/-- below the width of the word the leading digit needs no reduction: the form the specification writes -/
theorem be16_eq {n : Nat} (h : n < 65536) : be16 n = [n / 256, n % 256] := by
  rw [be16, Nat.mod_eq_of_lt (a := n / 256) (by omega)]

theorem be32_eq {n : Nat} (h : n < 4294967296) : be32 n = [n / 16777216, n / 65536 % 256, n / 256 % 256, n % 256] := by
  rw [be32, Nat.mod_eq_of_lt (a := n / 16777216) (by omega)]

section shortest
-- once the size class of `n` is known the table is a literal list: `simp` evaluates membership and the lengths
attribute [local simp] Shortest opt strHeader strHeaders binHeader binHeaders arrHeader arrHeaders mapHeader mapHeaders
  extHeader extHeaders

theorem strHeader_shortest (n : Nat) (hn : n < 4294967296) : Shortest (strHeader n) (strHeaders n) := by
  by_cases h1 : n < 32
  · have := fixstr_add n h1
    have h2 : n < 256 := by omega
    have h3 : n < 65536 := by omega
    simp [h1, h2, h3, hn, this]
  · by_cases h2 : n < 256
    · have h3 : n < 65536 := by omega
      have h4 : n % 256 = n := by omega
      simp [h1, h2, h3, hn, h4]
    · by_cases h3 : n < 65536
      · simp [h1, h2, h3, hn, be16_eq h3]
      · simp [h1, h2, h3, hn, be32_eq hn]

theorem binHeader_shortest (n : Nat) (hn : n < 4294967296) : Shortest (binHeader n) (binHeaders n) := by
  by_cases h2 : n < 256
  · have h3 : n < 65536 := by omega
    have h4 : n % 256 = n := by omega
    simp [h2, h3, hn, h4]
  · by_cases h3 : n < 65536
    · simp [h2, h3, hn, be16_eq h3]
    · simp [h2, h3, hn, be32_eq hn]

theorem arrHeader_shortest (n : Nat) (hn : n < 4294967296) : Shortest (arrHeader n) (arrHeaders n) := by
  by_cases h1 : n < 16
  · have := fixarr_add n h1
    have h3 : n < 65536 := by omega
    simp [h1, h3, hn, this]
  · by_cases h3 : n < 65536
    · simp [h1, h3, hn, be16_eq h3]
    · simp [h1, h3, hn, be32_eq hn]

theorem mapHeader_shortest (n : Nat) (hn : n < 4294967296) : Shortest (mapHeader n) (mapHeaders n) := by
  by_cases h1 : n < 16
  · have := fixmap_add n h1
    have h3 : n < 65536 := by omega
    simp [h1, h3, hn, this]
  · by_cases h3 : n < 65536
    · simp [h1, h3, hn, be16_eq h3]
    · simp [h1, h3, hn, be32_eq hn]

theorem extHeader_shortest (n ty : Nat) (hn : n < 4294967296) : Shortest (extHeader n ty) (extHeaders n ty) := by
  by_cases h2 : n < 256
  · have h3 : n < 65536 := by omega
    have h4 : n % 256 = n := by omega
    by_cases c1 : n = 1
    · subst c1; simp
    by_cases c2 : n = 2
    · subst c2; simp
    by_cases c4 : n = 4
    · subst c4; simp
    by_cases c8 : n = 8
    · subst c8; simp
    by_cases c16 : n = 16
    · subst c16; simp
    simp [h2, h3, hn, h4, c1, c2, c4, c8, c16]
  · have c1 : n ≠ 1 := by omega
    have c2 : n ≠ 2 := by omega
    have c4 : n ≠ 4 := by omega
    have c8 : n ≠ 8 := by omega
    have c16 : n ≠ 16 := by omega
    by_cases h3 : n < 65536
    · simp [h2, h3, hn, be16_eq h3, c1, c2, c4, c8, c16]
    · simp [h2, h3, hn, be32_eq hn, c1, c2, c4, c8, c16]

end shortest

theorem toSigned_ofSigned (k : Nat) (i : Int) (h : -(2 ^ k : Nat) ≤ i ∧ i < (2 ^ k : Nat)) :
    toSigned (k + 1) (ofSigned (k + 1) i) = i := by
  simp only [toSigned, ofSigned, Nat.add_sub_cancel, Nat.pow_succ]
  generalize 2 ^ k = m at h ⊢
  have hm : i % ((m * 2 : Nat) : Int) = if 0 ≤ i then i else i + (m * 2 : Nat) := by
    split
    · exact Int.emod_eq_of_lt ‹_› (by omega)
    · rw [← Int.add_mul_emod_self_left i ((m * 2 : Nat) : Int) 1, Int.mul_one]
      exact Int.emod_eq_of_lt (by omega) (by omega)
  rw [hm]
  split <;> omega

end Primitiv.Msgpack
