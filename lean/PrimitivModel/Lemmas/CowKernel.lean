import PrimitivModel.Model.Cow
/-
The in-place kernels of Model/Cow.lean: they keep the length of the destination
buffer, and when source and destination are the *same* buffer (`x += x`: same
object, hence same shape and same strides) the sequential loop reads every
element before it is overwritten, so the result is the one obtained from a
snapshot of the source.
-/
namespace Primitiv.Cow

theorem length_foldl_kstep (f : Int → Int → Int) (src : Option (List Int)) (L : List (Nat × Nat)) (D : List Int) :
    (L.foldl (kstep f src) D).length = D.length := by
  induction L generalizing D with
  | nil => rfl
  | cons p L ih => simp [List.foldl, ih, kstep]

theorem length_arith (f : Int → Int → Int) (sy sx : Shape) (D : List Int) (src : Option (List Int)) :
    (arith f sy sx D src).length = D.length := by
  simp [arith, kernel, length_foldl_kstep]

theorem length_scatter (f : Int → Int → Int) (idx : List (Nat × Nat)) (D S : List Int) :
    (scatter f idx D S).length = D.length := length_foldl_kstep f (some S) idx D

theorem length_sliceBwK (dim off : Nat) (sy sx : Shape) (D S : List Int) :
    (sliceBwK dim off sy sx D S).length = D.length := by
  unfold sliceBwK; split <;> simp [length_arith, length_scatter]

theorem length_fill (n : Nat) (k : Int) (D : List Int) (h : D.length = n) : (fill n k D).length = n := by
  simp [fill, h]

theorem length_overwrite (n : Nat) (vals D : List Int) (h : D.length = n) (hv : vals.length = n) :
    (overwrite n vals D).length = n := by
  simp [overwrite, h, hv]

theorem length_scale (n : Nat) (k : Int) (D : List Int) (h : D.length = n) : (scale n k D).length = n := by
  simp [scale, h]

theorem length_fitTo (n : Nat) (D : List Int) : (fitTo n D).length = n := by
  simp [fitTo]; omega

theorem fitTo_self (D : List Int) : fitTo D.length D = D := by
  simp [fitTo]

/-- `hsame` is the loop invariant: the cells still to be visited hold their value in the snapshot
`D0`, since the steps taken so far wrote elsewhere. -/
theorem foldl_alias (f : Int → Int → Int) (D0 : List Int) (L : List (Nat × Nat)) (D : List Int)
    (hdiag : ∀ p ∈ L, p.1 = p.2) (hnd : L.Pairwise (fun p q => p.1 ≠ q.1))
    (hsame : ∀ p ∈ L, D.getD p.1 0 = D0.getD p.1 0) :
    L.foldl (kstep f none) D = L.foldl (kstep f (some D0)) D := by
  induction L generalizing D with
  | nil => rfl
  | cons p L ih =>
    have hp := hdiag p (by simp)
    have hs := hsame p (by simp)
    have hstep : kstep f none D p = kstep f (some D0) D p := by
      simp only [kstep, Option.getD]
      rw [← hp, hs]
    rw [List.pairwise_cons] at hnd
    simp only [List.foldl]
    rw [hstep]
    apply ih
    · intro q hq; exact hdiag q (by simp [hq])
    · exact hnd.2
    · intro q hq
      have hne := hnd.1 q hq
      rw [← hsame q (by simp [hq])]
      simp only [kstep, List.getD_eq_getElem?_getD]
      rw [List.getElem?_set_ne hne]

theorem kernelIdx_diag (vol bs k : Nat) : ∀ p ∈ kernelIdx vol bs k k, p.1 = p.2 := by
  intro p hp
  simp only [kernelIdx, List.mem_flatMap, List.mem_map] at hp
  obtain ⟨b, _, i, _, rfl⟩ := hp
  rfl

/-- `h` is what `skipOf` provides: the stride between minibatch items is the volume when there is
more than one item (and without a second item the stride does not matter). -/
theorem kernelIdx_increasing (vol bs k : Nat) (h : bs ≤ 1 ∨ k = vol) :
    (kernelIdx vol bs k k).Pairwise (fun p q => p.1 < q.1) := by
  unfold kernelIdx
  rw [List.pairwise_flatMap]
  constructor
  · intro b _
    rw [List.pairwise_map]
    exact List.Pairwise.imp (fun {a c} (hac : a < c) => by simp; omega) List.pairwise_lt_range
  · apply List.Pairwise.imp_of_mem _ List.pairwise_lt_range
    intro b1 b2 hb1 hb2 hlt x hx y hy
    simp only [List.mem_map, List.mem_range] at hx hy hb1 hb2
    obtain ⟨i, hi, rfl⟩ := hx
    obtain ⟨j, hj, rfl⟩ := hy
    rcases h with h | h
    · omega
    · subst h
      show b1 * k + i < b2 * k + j
      have : (b1 + 1) * k ≤ b2 * k := Nat.mul_le_mul_right k (by omega)
      rw [Nat.add_mul] at this
      omega

theorem arith_alias (f : Int → Int → Int) (s : Shape) (D : List Int) :
    arith f s s D none = arith f s s D (some D) := by
  unfold arith kernel
  have hk : max s.batch s.batch ≤ 1 ∨ skipOf s = s.volume := by
    unfold skipOf Shape.hasBatch
    by_cases hb : s.batch > 1
    · right; simp [hb]
    · left; omega
  apply foldl_alias
  · exact kernelIdx_diag _ _ _
  · exact (kernelIdx_increasing _ _ _ hk).imp (fun h => Nat.ne_of_lt h)
  · intro _ _; rfl

end Primitiv.Cow
