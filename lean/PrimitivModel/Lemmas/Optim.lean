import PrimitivModel.Lemmas.OptimBase
import Mathlib.Tactic.Ring
import Mathlib.Algebra.Order.Field.Basic
import Mathlib.Tactic.FieldSimp
import Mathlib.Analysis.Real.Sqrt
/-
For C12.  The generated elementwise rules are the textbook equations, case by
case (`updateElem_eq_spec`), so the hand-written `Optimizer::update` with them is
the specification's update; setters and `add` agree with the specification's on
the states of `Inv1`, which every operation keeps; hence whole histories agree
(`run_eq_spec`).  The bound on the gradients' norm after `update()` comes from
its applying one clipping factor to all of them, after the decay.

Nothing below uses `ring`, `field_simp` or `Real.sqrt`; the imports are here for
Props/C12 (statements over ℝ, `example`s over ℚ), which imports this file only.
-/
-- the lemmas of a section share its class hypotheses (those of Props/C12), whether or not each needs all of them
set_option linter.unusedSectionVars false
namespace Primitiv.Opt
open Primitiv.Gen.Opt

section congr
variable {α : Type} [OfNat α 0]

theorem updateWith_congr (e e' : α → α → List α → α × List α) (names : List String) (p : Param α)
    (h : ∀ g v st, st.length = names.length → e g v st = e' g v st) :
    p.updateWith e names = p.updateWith e' names := by
  have hm : ∀ i, e (p.grad.getD i 0) (p.value.getD i 0) ((names.map p.stat).map (fun s => s.getD i 0)) =
      e' (p.grad.getD i 0) (p.value.getD i 0) ((names.map p.stat).map (fun s => s.getD i 0)) :=
    fun i => h _ _ _ (by simp)
  simp only [Param.updateWith, hm]

end congr

section field
variable {K : Type} [Field K]

theorem updateElem_eq_spec (F : Fns K) (s : K) (e : Nat) (g θ : K) : ∀ (k : Kind) (fields st : List K),
    fields.length = arity k → st.length = (statsUsed k).length →
    updateElem F k fields s e g θ st = Spec.elem F k fields s e g θ st
  | .SGD, [η], [], _, _ => by
    -- `unfold`: the equation lemmas `simp only [updateElem]` would ask for are slow to generate
    unfold updateElem Spec.elem
    simp only [sgd_update, Spec.sgd]
  | .MomentumSGD, [η, μ], [m], _, _ => by
    unfold updateElem Spec.elem
    simp only [momentumsgd_update, Spec.momentum, mul_comm m μ]
  | .AdaGrad, [η, ε], [m], _, _ => by
    unfold updateElem Spec.elem
    simp only [adagrad_update, Spec.adagrad, mul_div_assoc]
  | .RMSProp, [η, a, ε], [m], _, _ => by
    unfold updateElem Spec.elem
    simp only [rmsprop_update, Spec.rmsprop, mul_div_assoc, mul_assoc]
  | .AdaDelta, [ρ, ε], [m1, m2], _, _ => by
    unfold updateElem Spec.elem
    simp only [adadelta_update, Spec.adadelta, mul_comm m2 ρ, mul_comm m1 ρ, mul_assoc]
  | .Adam, [a, β1, β2, ε], [m1, m2], _, _ => by
    unfold updateElem Spec.elem
    simp only [adam_update, Spec.adam, add32, mul_div_assoc, mul_assoc]

variable [LinearOrder K] [IsStrictOrderedRing K]

theorem param_update_eq_spec (F : Fns K) (k : Kind) (fields : List K) (sc : K) (e : Nat) (p : Param K)
    (hf : fields.length = arity k) :
    p.update F k fields sc e = p.updateWith (Spec.elem F k fields sc e) (Spec.statNames k) := by
  unfold Param.update
  rw [← statsUsed_eq_spec]
  exact updateWith_congr _ _ _ p (fun g v st hst => updateElem_eq_spec F sc e g v k fields st hf hst)

theorem decay_eq_spec (l2 : K) (reg : List Nat) (ps : List (Param K)) :
    (if l2 > 0 then mapReg reg (Param.decay l2) ps else ps) =
      mapReg reg (fun p => { p with grad := Spec.decayed l2 p }) ps := by
  rw [mapReg_ite]
  congr 1
  funext p
  unfold Spec.decayed
  split <;> rfl

theorem clip_eq_spec (F : Fns K) (c : K) (reg : List Nat) (ps : List (Param K)) :
    (if c > 0 then
        (if sqNorm (regGrads reg ps) > c * c then
          mapReg reg (Param.scaleGrad (c / F.sqrt (sqNorm (regGrads reg ps)))) ps else ps)
      else ps) =
      mapReg reg
        (fun p => { p with grad := p.grad.map (fun g => Spec.clipFactor F c (sqNorm (regGrads reg ps)) * g) })
        ps := by
  rw [← ite_and, mapReg_ite]
  congr 1
  funext p
  unfold Spec.clipFactor
  split
  · simp only [Param.scaleGrad, mul_comm]
  · simp only [one_mul, List.map_id']

theorem updateCore_eq_spec (F : Fns K) (s : State K) (hf : s.o.fields.length = arity s.o.kind) :
    updateCore F s = Spec.updateCore F s := by
  unfold updateCore Spec.updateCore
  -- `add32`: the code's epoch is `add32 e 1`, the specification's `(e + 1) % 2^32`
  simp only [decay_eq_spec, clip_eq_spec, add32]
  congr 1
  congr 1
  funext p
  exact param_update_eq_spec F _ _ _ _ p hf

end field

section
variable {K : Type} [Field K] [LinearOrder K] [IsStrictOrderedRing K]

theorem setNonneg_eq (x : K) (store : K → Base K) (s : State K) :
    Spec.setNonneg x store s = withBase s (if x < 0 then none else some (store x)) := by
  unfold Spec.setNonneg
  split <;> rfl

theorem setLr_eq (x : K) (s : State K) :
    withBase s (s.o.base.set_learning_rate_scaling x) =
      Spec.setNonneg x (fun x => { s.o.base with lr_scale_ := x }) s :=
  Eq.symm (setNonneg_eq x _ s)

theorem lookup_single {β : Type} (key k' : String) (x d : β) :
    (List.lookup k' [(key, x)]).getD d = if k' == key then x else d := by
  by_cases h : (k' == key) = true <;> simp [List.lookup, h]

theorem cfgU_eq (key : String) (n : Nat) (b : Base K) :
    b.set [(key, n)] [] = if key == "Optimizer.epoch" then { b with epoch_ := n } else b := by
  by_cases h : key = "Optimizer.epoch"
  · subst h; simp [Base.set, List.lookup]
  · simp [Base.set, List.lookup, h, beq_false_of_ne (Ne.symm h)]

theorem cfgF_base_eq (key : String) (x : K) (b : Base K) :
    b.set [] [(key, x)] =
      if key == "Optimizer.lr_scale" then { b with lr_scale_ := x }
      else if key == "Optimizer.l2_strength" then { b with l2_strength_ := x }
      else if key == "Optimizer.clip_threshold" then { b with clip_threshold_ := x }
      else b := by
  by_cases h1 : key = "Optimizer.lr_scale"
  · subst h1; simp [Base.set, List.lookup]
  by_cases h2 : key = "Optimizer.l2_strength"
  · subst h2; simp [Base.set, List.lookup]
  by_cases h3 : key = "Optimizer.clip_threshold"
  · subst h3; simp [Base.set, List.lookup]
  simp [Base.set, List.lookup, h1, h2, h3, beq_false_of_ne (Ne.symm h1), beq_false_of_ne (Ne.symm h2),
    beq_false_of_ne (Ne.symm h3)]

theorem cfgF_fields_eq (key : String) (x : K) : ∀ (k : Kind) (fields : List K), fields.length = arity k →
    setConfigs k [(key, x)] fields =
      (List.range fields.length).map (fun j => if (Spec.keys k).getD j "" == key then x else fields.getD j 0) := by
  refine forall_fields ?_ ?_ ?_ ?_ ?_ ?_ <;> intros <;>
    simp [setConfigs, lookup_single, Spec.keys, List.range, List.range.loop]

/-- the second part: `add` of an invalid parameter throws where the algorithm keeps
statistics, while `SGD::configure_parameter` is empty and accepts one -/
def Inv1 (s : State K) : Prop :=
  s.o.fields.length = arity s.o.kind ∧ (statNames s.o.kind ≠ [] ∨ ∀ v ∈ valids s.ps, v = true)

theorem add_invalid (s : State K) (i : Nat) (p : Param K) (hp : s.ps[i]? = some p) (hv : p.valid = false)
    (hk : statNames s.o.kind ≠ []) (hr : i ∉ s.o.reg) : add s i = (s, false) := by
  unfold add
  simp only [hr, if_false, hp, configure_invalid _ _ hv hk]
  simp [set_self _ _ _ hp]

theorem add_eq_spec (s : State K) (i : Nat) (h : Inv1 s) : add s i = Spec.add s i := by
  by_cases hr : i ∈ s.o.reg
  · simp [add, Spec.add, hr]
  cases hp : s.ps[i]? with
  | none => simp [add, Spec.add, hr, hp]
  | some p =>
    by_cases hv : p.valid = true
    · simp [add, Spec.add, hr, hp, configure_valid _ _ hv, hv]
    · have hk : statNames s.o.kind ≠ [] :=
        h.2.resolve_right (fun hall => hv (hall _ (List.mem_map.mpr ⟨p, List.mem_of_getElem? hp, rfl⟩)))
      rw [add_invalid s i p hp (by simpa using hv) hk hr]
      simp [Spec.add, hr, hp, hv]

theorem exec_eq_spec (F : Fns K) (op : Op K) (s : State K) (h : Inv1 s) :
    exec F op s = Spec.exec F op s := by
  cases op with
  | setGrad i g => rfl
  | update => simp only [exec, Spec.exec, update, updateCore_eq_spec F s h.1]
  | reset => rfl
  | setLr x | setL2 x | setClip x =>
    simp only [exec, Spec.exec]
    exact Eq.symm (setNonneg_eq x _ s)
  | setEpoch n => rfl
  | cfgF key x => simp only [exec, Spec.exec, cfgF_base_eq, cfgF_fields_eq _ _ _ _ h.1]
  | cfgU key n => simp only [exec, Spec.exec, cfgU_eq]
  | add i => exact add_eq_spec s i h

theorem updateWith_valid (e : K → K → List K → K × List K) (names : List String) (p : Param K) :
    (p.updateWith e names).valid = p.valid := rfl

theorem setConfigs_length (k : Kind) (cf : List (String × K)) (fields : List K) :
    (setConfigs k cf fields).length = fields.length := by
  unfold setConfigs
  split <;> rfl

theorem Inv1_congr {s s' : State K} (h : Inv1 s) (hk : s'.o.kind = s.o.kind)
    (hf : s'.o.fields.length = s.o.fields.length) (hv : valids s'.ps = valids s.ps) : Inv1 s' := by
  unfold Inv1
  rw [hk, hf, hv]
  exact h

theorem Inv1_exec (F : Fns K) (op : Op K) (s : State K) (h : Inv1 s) : Inv1 (exec F op s).1 := by
  cases op with
  | setGrad i g =>
    simp only [exec, setGrad]
    cases hp : s.ps[i]? with
    | none => exact h
    | some p =>
      simp only
      split
      · exact Inv1_congr h rfl rfl (map_set_of_eq _ _ _ p _ hp rfl)
      · exact h
  | update =>
    simp only [exec, update]
    split
    · exact Inv1_congr h rfl rfl (map_updateCore _ (fun _ _ => rfl) (fun _ _ _ => rfl) F s)
    · exact h
  | reset =>
    simp only [exec, reset]
    split
    · exact Inv1_congr h rfl rfl (map_mapReg _ _ Param.resetGrad _ (fun _ => rfl))
    · exact h
  | setLr x | setL2 x | setClip x | setEpoch n => exact withBase_cases s _ (fun _ => h)
  | cfgF key x => exact ⟨(setConfigs_length _ _ _).trans h.1, h.2⟩
  | cfgU key n => exact h
  | add i =>
    simp only [exec, add]
    split
    · exact h
    · cases hp : s.ps[i]? with
      | none => exact h
      | some p =>
        simp only
        split <;> exact Inv1_congr h rfl rfl (map_set_of_eq _ _ _ p _ hp (configure_keeps_valid _ _))

theorem run_eq_spec (F : Fns K) (h : List (Op K)) (s : State K) (hI : Inv1 s) :
    run (exec F) h s = run (Spec.exec F) h s :=
  run_congr _ _ Inv1 (Inv1_exec F) (exec_eq_spec F) h s hI

theorem Inv1_run (F : Fns K) (h : List (Op K)) (s : State K) (hI : Inv1 s) : Inv1 (run (exec F) h s).1 :=
  run_invariant _ Inv1 h (fun op _ => Inv1_exec F op) s hI

theorem regGrads_mapReg {h : List K → List K} (reg : List Nat) (f : Param K → Param K) (ps : List (Param K))
    (hf : ∀ p, (f p).grad = h p.grad) : regGrads reg (mapReg reg f ps) = (regGrads reg ps).map h := by
  unfold regGrads
  rw [List.map_filterMap]
  apply List.filterMap_congr
  intro i hi
  rw [getElem?_mapReg]
  cases ps[i]? <;> simp [hi, hf]

def decayedGrads (s : State K) : List (List K) :=
  regGrads s.o.reg (mapReg s.o.reg (fun p => { p with grad := Spec.decayed s.o.base.l2_strength_ p }) s.ps)

theorem grads_after_update (F : Fns K) (s : State K) :
    regGrads s.o.reg (updateCore F s).ps =
      (decayedGrads s).map (fun g => g.map (fun x =>
        Spec.clipFactor F s.o.base.clip_threshold_ (sqNorm (decayedGrads s)) * x)) := by
  unfold updateCore decayedGrads
  simp only [decay_eq_spec, clip_eq_spec]
  rw [regGrads_mapReg (h := fun g => g) _ (Param.update F _ _ _ _) _ (fun p => rfl), List.map_id']
  rw [regGrads_mapReg (h := fun g => g.map (fun x => _ * x)) _ _ _ (fun p => rfl)]

theorem sqNorm_eq_sum (gs : List (List K)) :
    sqNorm gs = (gs.map (fun g => (g.map (fun x => x * x)).sum)).sum := by
  rw [List.sum_eq_foldl, List.foldl_map]
  simp only [sqNorm, sumL, List.sum_eq_foldl]

theorem sqNorm_scale (c : K) (gs : List (List K)) :
    sqNorm (gs.map (fun g => g.map (fun x => c * x))) = c * c * sqNorm gs := by
  simp only [sqNorm_eq_sum, List.map_map, Function.comp_def, mul_mul_mul_comm c _ c, List.sum_map_mul_left]

theorem sqNorm_nonneg (gs : List (List K)) : 0 ≤ sqNorm gs := by
  rw [sqNorm_eq_sum]
  apply List.sum_nonneg
  intro x hx
  obtain ⟨g, _, rfl⟩ := List.mem_map.mp hx
  apply List.sum_nonneg
  intro y hy
  obtain ⟨z, _, rfl⟩ := List.mem_map.mp hy
  exact mul_self_nonneg z

theorem sqNorm_after_update_le (F : Fns K) (hF : ∀ x, 0 ≤ x → F.sqrt x * F.sqrt x = x) (s : State K)
    (hc : 0 < s.o.base.clip_threshold_) :
    sqNorm (regGrads s.o.reg (updateCore F s).ps) ≤ s.o.base.clip_threshold_ * s.o.base.clip_threshold_ := by
  rw [grads_after_update, sqNorm_scale]
  unfold Spec.clipFactor
  split
  next h =>
    -- (c/√N)·(c/√N)·N = c·c since N > c·c ≥ 0
    have hN : 0 < sqNorm (decayedGrads s) := lt_of_le_of_lt (mul_self_nonneg _) h.2
    rw [div_mul_div_comm, hF _ hN.le, div_mul_cancel₀ _ hN.ne']
  next h =>
    rw [one_mul, one_mul]
    exact not_lt.mp (fun h2 => h ⟨hc, h2⟩)

theorem updateCore_unregistered (F : Fns K) (s : State K) (i : Nat) (hi : i ∉ s.o.reg) :
    (updateCore F s).ps[i]? = s.ps[i]? := by
  unfold updateCore
  simp only [decay_eq_spec, clip_eq_spec, getElem?_mapReg, hi, if_false]
  cases s.ps[i]? <;> rfl

theorem updateCore_reg (F : Fns K) (s : State K) : (updateCore F s).o.reg = s.o.reg := rfl

def Op.mentions (i : Nat) : Op K → Prop
  | .add j => j = i
  | .setGrad j _ => j = i
  | _ => False

theorem exec_unregistered (F : Fns K) (op : Op K) (s : State K) (i : Nat) (hi : i ∉ s.o.reg)
    (hm : ¬ op.mentions i) :
    (exec F op s).1.ps[i]? = s.ps[i]? ∧ i ∉ (exec F op s).1.o.reg := by
  cases op with
  | setGrad j g =>
    have hji : j ≠ i := fun e => hm e
    simp only [exec, setGrad]
    cases hp : s.ps[j]? with
    | none => exact ⟨rfl, hi⟩
    | some p =>
      simp only
      split
      · exact ⟨List.getElem?_set_ne hji, hi⟩
      · exact ⟨rfl, hi⟩
  | update =>
    simp only [exec, update]
    split
    · exact ⟨updateCore_unregistered F s i hi, hi⟩
    · exact ⟨rfl, hi⟩
  | reset =>
    simp only [exec, reset]
    split
    · refine ⟨?_, hi⟩
      simp only [getElem?_mapReg, hi, if_false]
      cases s.ps[i]? <;> rfl
    · exact ⟨rfl, hi⟩
  | setLr x | setL2 x | setClip x | setEpoch n =>
    exact withBase_cases (P := fun s' => s'.ps[i]? = s.ps[i]? ∧ i ∉ s'.o.reg) s _ (fun _ => ⟨rfl, hi⟩)
  | cfgF key x => exact ⟨rfl, hi⟩
  | cfgU key n => exact ⟨rfl, hi⟩
  | add j =>
    have hji : j ≠ i := fun e => hm e
    simp only [exec, add]
    split
    · exact ⟨rfl, hi⟩
    · cases hp : s.ps[j]? with
      | none => exact ⟨rfl, hi⟩
      | some p =>
        simp only
        split
        · refine ⟨List.getElem?_set_ne hji, ?_⟩
          simp only [List.mem_append, List.mem_singleton, not_or]
          exact ⟨hi, fun e => hji e.symm⟩
        · exact ⟨List.getElem?_set_ne hji, hi⟩

theorem run_unregistered (F : Fns K) (h : List (Op K)) (s : State K) (i : Nat) (hi : i ∉ s.o.reg)
    (hm : ∀ op ∈ h, ¬ op.mentions i) : (run (exec F) h s).1.ps[i]? = s.ps[i]? :=
  (run_invariant (exec F) (fun s' => i ∉ s'.o.reg ∧ s'.ps[i]? = s.ps[i]?) h
    (fun op ho s' hs' =>
      have h1 := exec_unregistered F op s' i hs'.1 (hm op ho)
      ⟨h1.2, h1.1.trans hs'.2⟩) s ⟨hi, rfl⟩).2

end

end Primitiv.Opt
