import PrimitivModel.Model.Spinlock
/-
The two spinlock state machines of Model/Spinlock.lean.  The invariant of each
(`Spin.Good`, `RSpin.Good`) is a clause per thread about what it may assume of
the shared fields, by program counter, and uniqueness of the thread that has won
the flag.  A step keeps the stepping thread's own clause (`trans_spec`, `self_ok`)
and those of the others by frame facts (`trans_outside`, `trans_owner`): against
a set flag a thread that has not won it changes nothing.  Core Lean only.
-/
namespace Primitiv.Lock

theorem upd_apply {α} (f : Nat → α) (t u : Nat) (v : α) : upd f t v u = if u = t then v else f u := rfl

theorem inc32_of_lt (c : Nat) (h : c + 1 < W) : inc32 c = c + 1 := if_pos h
theorem dec32_of_pos (c : Nat) (h : 0 < c) : dec32 c = c - 1 := if_neg (Nat.ne_of_gt h)
theorem inc32_lt (c : Nat) : inc32 c < W := by
  unfold inc32; split
  · assumption
  · decide
theorem dec32_lt (c : Nat) (h : c < W) : dec32 c < W := by
  unfold dec32; split
  · decide
  · omega

namespace Spin

theorem fetch_clr (h : Bool) (r : List Op) : (fetch h r).1 = .clr → h = true := by
  induction r with
  | nil => simp [fetch]
  | cons op r ih =>
    cases op <;> simp [fetch]
    split <;> simp_all

@[simp] theorem finish_hold (h : Bool) (r : List Op) : (finish h r).hold = h := rfl

theorem finish_clr (h : Bool) (r : List Op) : (finish h r).pc = .clr → h = true := fetch_clr h r

theorem trans_spec (f : Bool) (th : Thread) (hf : th.hold = true → f = true) (hc : th.pc = .clr → th.hold = true) :
    ((trans f th).2.1.hold = true → (trans f th).1 = true) ∧
    ((trans f th).2.1.pc = .clr → (trans f th).2.1.hold = true) ∧
    (f = true → th.hold = false → (trans f th).1 = true ∧ (trans f th).2.1.hold = false) := by
  obtain ⟨pc, rest, hold⟩ := th
  cases pc with
  | done => exact ⟨hf, hc, fun h h' => ⟨h, h'⟩⟩
  | tas b =>
    cases f
    · exact ⟨fun _ => rfl, fun _ => rfl, fun h => absurd h Bool.false_ne_true⟩
    · cases b
      · exact ⟨fun _ => rfl, finish_clr hold rest, fun _ h => ⟨rfl, h⟩⟩
      · exact ⟨fun _ => rfl, hc, fun _ h => ⟨rfl, h⟩⟩
  | clr =>
    have hh : hold = true := hc rfl
    exact ⟨fun h => absurd h Bool.false_ne_true, finish_clr false rest, fun _ h => absurd (hh.symm.trans h) (by decide)⟩

structure Good (s : Sys) : Prop where
  flag_of_hold : ∀ t, (s.thr t).hold = true → s.flag = true
  uniq : ∀ t u, (s.thr t).hold = true → (s.thr u).hold = true → t = u
  clr_hold : ∀ t, (s.thr t).pc = .clr → (s.thr t).hold = true

theorem good_init (progs : Nat → List Op) : Good (init progs) :=
  ⟨fun _ h => absurd h Bool.false_ne_true, fun _ _ h => absurd h Bool.false_ne_true,
    fun t => finish_clr false (progs t)⟩

theorem good_step (s : Sys) (t : Nat) (g : Good s) : Good (step s t).1 := by
  obtain ⟨hflag, hclr, hlose⟩ := trans_spec s.flag (s.thr t) (g.flag_of_hold t) (g.clr_hold t)
  -- while another thread holds the lock, `t` leaves the flag set and does not come to hold it
  have hother : ∀ u, u ≠ t → (s.thr u).hold = true →
      (trans s.flag (s.thr t)).1 = true ∧ (trans s.flag (s.thr t)).2.1.hold = false :=
    fun u hu hh => hlose (g.flag_of_hold u hh) (Bool.eq_false_iff.2 fun h => hu (g.uniq u t hh h))
  refine ⟨?_, ?_, ?_⟩
  · intro u
    simp only [step, upd_apply]
    split
    · exact hflag
    · exact fun h => (hother u ‹_› h).1
  · intro a b
    simp only [step, upd_apply]
    split <;> split
    · exact fun _ _ => (‹a = t›).trans (‹b = t›).symm
    · exact fun ha hb => absurd ha (by simp [(hother b ‹_› hb).2])
    · exact fun ha hb => absurd hb (by simp [(hother a ‹_› ha).2])
    · exact g.uniq a b
  · intro u
    simp only [step, upd_apply]
    split
    · exact hclr
    · exact g.clr_hold u

theorem good_of_reach {progs : Nat → List Op} {s : Sys} (h : Reach progs s) : Good s := by
  induction h with
  | init => exact good_init progs
  | step t _ ih => exact good_step _ t ih

end Spin

namespace RSpin

/-- The thread has won the flag (it is between the successful test_and_set and the clear). -/
def inside (th : Thread) : Prop :=
  0 < th.hold ∨ (match th.pc with | .tWr _ | .tInc _ | .uDec | .uWr | .uClr => True | _ => False)

/-- The shared state as seen from a thread that is not in the middle of a
protected piece of code: either it holds the lock `h` times, or not at all. -/
def Idle (sh : Shared) (t : Nat) (h : Nat) : Prop :=
  (0 < h → sh.flag = true ∧ sh.owner = some t ∧ sh.count = h) ∧ (h = 0 → sh.owner ≠ some t)

def Ok (sh : Shared) (t : Nat) (th : Thread) : Prop :=
  match th.pc with
  | .tWr _ => th.hold = 0 ∧ sh.flag = true ∧ sh.owner = none ∧ sh.count = 0
  | .tInc _ => sh.flag = true ∧ sh.owner = some t ∧ sh.count = th.hold
  | .uDec => 0 < th.hold ∧ sh.flag = true ∧ sh.owner = some t ∧ sh.count = th.hold
  | .uWr => th.hold = 1 ∧ sh.flag = true ∧ sh.owner = some t ∧ sh.count = 0
  | .uClr => th.hold = 1 ∧ sh.flag = true ∧ sh.owner = none ∧ sh.count = 0
  | _ => Idle sh t th.hold

def Free (sh : Shared) : Prop := (sh.flag = false → sh.owner = none ∧ sh.count = 0) ∧ sh.count < W

theorem fetch_cases (r : List Op) :
    (fetch r).1 = .done ∨ (fetch r).1 = .tTas true ∨ (fetch r).1 = .tTas false ∨ (fetch r).1 = .uRd := by
  cases r with
  | nil => simp [fetch]
  | cons op r => cases op <;> simp [fetch, entry]

theorem ok_finish (sh : Shared) (t h : Nat) (r : List Op) : Ok sh t (finish h r) ↔ Idle sh t h := by
  unfold Ok finish
  rcases fetch_cases r with e | e | e | e <;> simp only [e]

theorem inside_finish (h : Nat) (r : List Op) : inside (finish h r) ↔ 0 < h := by
  unfold inside finish
  rcases fetch_cases r with e | e | e | e <;> simp only [e, or_false]

@[simp] theorem finish_hold (h : Nat) (r : List Op) : (finish h r).hold = h := rfl

theorem inside_flag {sh : Shared} {t : Nat} {th : Thread} (hok : Ok sh t th) (hin : inside th) : sh.flag = true := by
  obtain ⟨pc, rest, hold⟩ := th
  cases pc <;> simp_all [Ok, inside, Idle]

theorem hold_owner {sh : Shared} {t : Nat} {th : Thread} (hok : Ok sh t th) (hh : 0 < th.hold) (hpc : th.pc ≠ .uClr) :
    sh.owner = some t ∧ sh.flag = true := by
  obtain ⟨pc, rest, hold⟩ := th
  cases pc <;> simp_all [Ok, Idle] <;> omega

theorem ok_outside {sh : Shared} {t : Nat} {th : Thread} (hout : ¬ inside th) : Ok sh t th ↔ sh.owner ≠ some t := by
  obtain ⟨pc, rest, hold⟩ := th
  cases pc <;> simp_all [Ok, inside, Idle]

theorem owner_inside {sh : Shared} {t : Nat} {th : Thread} (hok : Ok sh t th) (ho : sh.owner = some t) : inside th :=
  Classical.byContradiction fun hout => (ok_outside hout).1 hok ho

theorem self_ok (t : Nat) (sh : Shared) (th : Thread) (hok : Ok sh t th) (hfree : Free sh)
    (hnw : ∀ b, th.pc = .tInc b → sh.count + 1 < W) :
    Ok (trans t sh th).1 t (trans t sh th).2.1 ∧ Free (trans t sh th).1 := by
  obtain ⟨pc, rest, hold⟩ := th
  obtain ⟨flag, owner, count⟩ := sh
  have hlt : count < W := hfree.2
  cases pc with
  | done => exact ⟨hok, hfree⟩
  | tTas b =>
    simp only [trans]
    split
    · exact ⟨hok, hfree⟩
    · simp_all [Ok, Free, Idle]
  | tRd b =>
    simp only [trans]
    split
    · simp_all [Ok, Free, Idle]; omega
    · split
      · exact ⟨hok, hfree⟩
      · exact ⟨(ok_finish _ _ _ _).2 hok, hfree⟩
  | tWr b => simp_all [trans, Ok, Free]
  | tInc b =>
    have h1 : count + 1 < W := hnw b rfl
    simp only [trans, ok_finish, inc32_of_lt _ h1]
    simp_all [Ok, Free, Idle]
  | uRd =>
    simp only [trans]
    split
    · simp_all [Ok, Free, Idle]; omega
    · simp only [ok_finish]
      simp_all [Ok, Free, Idle]
  | uDec =>
    have hpos : 0 < count := Nat.lt_of_lt_of_eq hok.1 hok.2.2.2.symm
    simp only [trans, dec32_of_pos _ hpos]
    split
    · simp_all [Ok, Free]; omega
    · simp only [ok_finish]
      simp_all [Ok, Free, Idle]; omega
  | uWr => simp_all [trans, Ok, Free]
  | uClr =>
    simp only [trans, ok_finish]
    simp_all [Ok, Free, Idle]

theorem trans_outside {t : Nat} {sh : Shared} {th : Thread} (hf : sh.flag = true) (hout : ¬ inside th)
    (ho : sh.owner ≠ some t) : (trans t sh th).1 = sh ∧ ¬ inside (trans t sh th).2.1 := by
  obtain ⟨pc, rest, hold⟩ := th
  have hh : ¬ 0 < hold := fun h => hout (.inl h)
  cases pc with
  | tWr | tInc | uDec | uWr | uClr => exact absurd (.inr trivial) hout
  | done => exact ⟨rfl, hout⟩
  | tTas b => simpa [trans, hf, inside] using hh
  | tRd b =>
    cases b
    · simpa only [trans, ho, if_false, Bool.false_eq_true, inside_finish, true_and] using hh
    · simpa [trans, ho, inside] using hh
  | uRd => simp only [trans, ho, if_false, inside_finish, true_and]; omega

theorem trans_owner (t : Nat) (sh : Shared) (th : Thread) :
    (trans t sh th).1.owner = sh.owner ∨ (trans t sh th).1.owner = some t ∨ (trans t sh th).1.owner = none := by
  obtain ⟨pc, rest, hold⟩ := th
  cases pc <;> simp [trans, apply_ite Prod.fst, apply_ite Shared.owner]

theorem trans_flag {t : Nat} {sh : Shared} {th : Thread} (h : (trans t sh th).1.flag = false) :
    sh.flag = false ∨ th.pc = .uClr := by
  obtain ⟨pc, rest, hold⟩ := th
  cases pc <;> simp_all [trans, apply_ite Prod.fst, apply_ite Shared.flag]

structure Good (s : Sys) : Prop where
  ok : ∀ t, Ok s.sh t (s.thr t)
  free : Free s.sh
  uniq : ∀ t u, inside (s.thr t) → inside (s.thr u) → t = u

theorem good_init (progs : Nat → List Op) : Good (init progs) :=
  ⟨fun t => (ok_finish _ t 0 _).2 (by simp [init, Idle]), by simp [init, Free],
    fun _ _ h => absurd ((inside_finish 0 _).1 h) (Nat.lt_irrefl 0)⟩

theorem good_step (s : Sys) (t : Nat) (g : Good s) (hnw : NoWrap s t) : Good (step s t).1 := by
  have hself := self_ok t s.sh (s.thr t) (g.ok t) g.free hnw
  -- a thread `u` other than the stepping thread `t`: if `u` is inside, `t` changes nothing and
  -- stays outside; if `u` is outside, only the owner field matters to it, and `t` does not write `u` there
  have hother : ∀ u, u ≠ t → Ok (trans t s.sh (s.thr t)).1 u (s.thr u) ∧
      (inside (s.thr u) → ¬ inside (trans t s.sh (s.thr t)).2.1) := by
    intro u hu
    by_cases hin : inside (s.thr u)
    · have hout : ¬ inside (s.thr t) := fun h => hu (g.uniq u t hin h)
      have hfr := trans_outside (inside_flag (g.ok u) hin) hout (fun h => hout (owner_inside (g.ok t) h))
      exact ⟨by rw [hfr.1]; exact g.ok u, fun _ => hfr.2⟩
    · refine ⟨(ok_outside hin).2 ?_, fun h => absurd h hin⟩
      rcases trans_owner t s.sh (s.thr t) with h | h | h <;> rw [h]
      · exact (ok_outside hin).1 (g.ok u)
      · exact fun e => hu (Option.some.inj e).symm
      · simp
  refine ⟨?_, hself.2, ?_⟩
  · intro u
    simp only [step, upd_apply]
    split
    · subst u; exact hself.1
    · exact (hother u ‹_›).1
  · intro a b
    simp only [step, upd_apply]
    split <;> split
    · exact fun _ _ => (‹a = t›).trans (‹b = t›).symm
    · exact fun ha hb => absurd ha ((hother b ‹_›).2 hb)
    · exact fun ha hb => absurd hb ((hother a ‹_›).2 ha)
    · exact g.uniq a b

theorem good_of_reach {progs : Nat → List Op} {s : Sys} (h : Reach progs s) : Good s := by
  induction h with
  | init => exact good_init progs
  | step t _ hnw ih => exact good_step _ t ih hnw

def noWrapB (s : Sys) (t : Nat) : Bool :=
  match (s.thr t).pc with
  | .tInc _ => decide (s.sh.count + 1 < W)
  | _ => true

theorem noWrap_of_B {s : Sys} {t : Nat} (h : noWrapB s t = true) : NoWrap s t := by
  intro b hb
  simp only [noWrapB, hb, decide_eq_true_eq] at h
  exact h

def runFrom (s : Sys) : List Nat → Sys
  | [] => s
  | t :: ts => runFrom (step s t).1 ts

def runOkFrom (s : Sys) : List Nat → Bool
  | [] => true
  | t :: ts => noWrapB s t && runOkFrom (step s t).1 ts

def run (progs : Nat → List Op) (sched : List Nat) : Sys := runFrom (init progs) sched
def runOk (progs : Nat → List Op) (sched : List Nat) : Bool := runOkFrom (init progs) sched

theorem reach_runFrom {progs : Nat → List Op} (sched : List Nat) : ∀ s, Reach progs s → runOkFrom s sched = true →
    Reach progs (runFrom s sched) := by
  induction sched with
  | nil => intro s h _; exact h
  | cons t ts ih =>
    intro s h hok
    simp only [runOkFrom, Bool.and_eq_true] at hok
    exact ih _ (Reach.step t h (noWrap_of_B hok.1)) hok.2

theorem reach_run {progs : Nat → List Op} {sched : List Nat} (h : runOk progs sched = true) :
    Reach progs (run progs sched) := reach_runFrom sched _ Reach.init h

def cur : Pc → Nat
  | .done => 0
  | _ => 1

theorem fetch_len (r : List Op) : cur (fetch r).1 + (fetch r).2.length = r.length := by
  cases r with
  | nil => rfl
  | cons op r => cases op <;> simp [fetch, entry, cur] <;> omega

/-- a bound on `hold` that no step raises: acquisitions held + the call in progress + the calls
still to come.  Initially it is the length of the program. -/
def budget (th : Thread) : Nat := th.hold + cur th.pc + th.rest.length

theorem budget_finish (h : Nat) (r : List Op) : budget (finish h r) = h + r.length := by
  have := fetch_len r
  simp only [budget, finish]; omega

theorem budget_trans (t : Nat) (sh : Shared) (th : Thread) : budget (trans t sh th).2.1 ≤ budget th := by
  obtain ⟨pc, rest, hold⟩ := th
  -- equal inside a call and when an acquisition returns (the call in progress becomes a held
  -- acquisition); smaller by one or two when any other call returns
  cases pc <;> simp only [trans] <;> (try split) <;> (try split) <;>
    (try simp only [budget_finish]) <;> simp only [budget, cur] <;> omega

theorem budget_reach {progs : Nat → List Op} {s : Sys} (h : Reach progs s) (t : Nat) :
    budget (s.thr t) ≤ (progs t).length := by
  induction h with
  | init =>
    have : (init progs).thr t = finish 0 (progs t) := rfl
    rw [this, budget_finish]; omega
  | step u _ _ ih =>
    simp only [step, upd_apply]
    split
    · rename_i e; subst e; exact Nat.le_trans (budget_trans _ _ _) ih
    · exact ih

theorem nowrap_of_short {progs : Nat → List Op} {s : Sys} (h : Reach progs s) (t : Nat)
    (hlen : (progs t).length < W) : NoWrap s t := by
  intro b hpc
  -- at `tInc`, `Ok` says `count = hold`, and `hold + 1 ≤ budget ≤ length of the program < W`
  have hb := budget_reach h t
  have hok := (good_of_reach h).ok t
  simp only [Ok, hpc] at hok
  simp only [budget, hpc, cur] at hb
  omega

/-- In no reachable state are two different threads about to perform
conflicting accesses to a non-atomic field. -/
def DRF (d : Decls) (progs : Nat → List Op) : Prop :=
  ∀ s, Reach progs s → ∀ t u, t ≠ u →
    ¬ Conflict d (nextAccess (s.thr t).pc) (nextAccess (s.thr u).pc)

theorem conflict_count {d : Decls} {a b : Option Access} (hr : d.atomic .ready = true) (ho : d.atomic .owner = true)
    (h : Conflict d a b) : ∃ x y, a = some x ∧ b = some y ∧ x.field = .count ∧ y.field = .count :=
  match a, b, h with
  | some x, some y, ⟨hf, _, hat⟩ =>
    have hx : x.field = .count := by cases hx : x.field <;> simp_all
    ⟨x, y, rfl, rfl, hx, hf ▸ hx⟩

/-- `lock_count_` is accessed at `++lock_count_` and `--lock_count_` only. -/
theorem inside_of_count {th : Thread} {x : Access} (hx : nextAccess th.pc = some x) (hf : x.field = .count) :
    inside th := by
  obtain ⟨pc, rest, hold⟩ := th
  cases pc <;> simp [nextAccess] at hx <;> subst hx <;> simp at hf <;> exact .inr trivial

/-- With `ready_` and `locked_thread_id_` atomic, the only plain field is
`lock_count_`, and it is touched only by the thread that is inside. -/
theorem drf_of_atomic (d : Decls) (progs : Nat → List Op) (hr : d.atomic .ready = true)
    (ho : d.atomic .owner = true) : DRF d progs := by
  intro s hreach t u htu hc
  have g := good_of_reach hreach
  obtain ⟨x, y, hx, hy, hfx, hfy⟩ := conflict_count hr ho hc
  exact htu (g.uniq t u (inside_of_count hx hfx) (inside_of_count hy hfy))

def witnessProgs : Nat → List Op := fun _ => [.lock]
/-- The interleaving that exhibits the race on a plain owner field: thread 0 has
won the flag and is about to write the owner, thread 1 has lost the
test_and_set and is about to read it. -/
def witness : Sys := run witnessProgs [0, 1]

theorem witness_reach : Reach witnessProgs witness := reach_run (by decide)

theorem witness_pcs : (witness.thr 0).pc = .tWr true ∧ (witness.thr 1).pc = .tRd true := by decide

theorem not_drf_of_plain_owner (d : Decls) (ho : d.atomic .owner = false) : ¬ DRF d witnessProgs := by
  intro h
  apply h witness witness_reach 0 1 (by decide)
  rw [witness_pcs.1, witness_pcs.2]
  simp [Conflict, nextAccess, Access.isWrite, ho]

end RSpin
end Primitiv.Lock
