import PrimitivModel.Lemmas.GraphBase
/-
Well-formed graph states and their extension by evaluations, on top of Lemmas/GraphBase.lean.
Core Lean only.

`WF s` is the invariant of the states a program can reach (that it is one: Lemmas/GraphForward.lean); it is
transferred along `SameVals`, which is all `backward` does after its forward phase.  `Ext s s' l`: s' is s
after exactly the operators l have been evaluated, each satisfying its local equation `LocalEq`.
Extensions compose (`Ext.trans`), keep `WF` (`Ext.wf`), and storing the values of one unevaluated operator
is one (`Ext.step`).
-/
namespace Primitiv.Graph
variable {τ : Type}

/-- some return value of operator `k` holds a memoised value -/
def State.evaluated (s : State τ) (k : Nat) : Prop :=
  ∃ o, s.ops[k]? = some o ∧ ∃ n ∈ o.rets, n.value.isSome = true

theorem evaluated_of_node {s : State τ} {a : Addr} {o : OpInfo τ} {n : NodeInfo τ} {v : τ}
    (ho : s.ops[a.oid]? = some o) (hn : o.rets[a.vid]? = some n) (hv : n.value = some v) :
    s.evaluated a.oid := ⟨o, ho, n, List.mem_of_getElem? hn, by simp [hv]⟩

theorem evaluated_of_node? {s : State τ} {a : Addr} {n : NodeInfo τ} {v : τ} (hn : s.node? a = some n)
    (hv : n.value = some v) : s.evaluated a.oid := by
  unfold State.node? at hn
  cases ho : s.ops[a.oid]? with
  | none => simp [ho] at hn
  | some o => simp only [ho] at hn; exact evaluated_of_node ho hn hv

/-- The contract between an operator and the graph that `add_operator`'s arity
check and `Operator::forward` establish in the C++: a Parameter operator has
no arguments and one return value, a random source has one return value, and
`forward` fills every return value. -/
def KindOK (kind : Kind τ) (args : List Addr) (nret : Nat) : Prop :=
  match kind with
  | .param _ => args = [] ∧ nret = 1
  | .rnd => nret = 1
  | .op sem => ∀ xs ys, sem.fwd xs = some ys → nret ≤ ys.length

structure WF (s : State τ) : Prop where
  /-- arguments refer to existing nodes of earlier operators -/
  args_lt : ∀ (k : Nat) (o : OpInfo τ), s.ops[k]? = some o → ∀ a ∈ o.args, a.oid < k ∧ s.validAddr a = true
  kind_ok : ∀ (k : Nat) (o : OpInfo τ), s.ops[k]? = some o → KindOK o.kind o.args o.rets.length
  /-- the return values of an operator are evaluated together -/
  all_or_none : ∀ (k : Nat) (o : OpInfo τ), s.ops[k]? = some o →
    (∀ n ∈ o.rets, n.value = none) ∨ (∀ n ∈ o.rets, n.value.isSome = true)
  /-- Parameter operators never memoise -/
  param_none : ∀ (k : Nat) (o : OpInfo τ), s.ops[k]? = some o → o.kind.isParam = true → ∀ n ∈ o.rets, n.value = none
  /-- an evaluated operator's non-parameter arguments are evaluated -/
  closed : ∀ (k : Nat) (o : OpInfo τ), s.ops[k]? = some o → s.evaluated k →
    ∀ b ∈ o.args, s.isParam b.oid = false → s.evaluated b.oid
  /-- the log lists exactly the evaluated operators -/
  log_iff : ∀ k, k ∈ s.log ↔ s.evaluated k
  log_nodup : s.log.Nodup
  /-- the stream position counts the evaluated random operators -/
  rnd_count : s.rndPos = s.log.countP s.isRnd
  /-- the i-th evaluated random operator holds the i-th sample of the stream -/
  rnd_vals : ∀ (i k : Nat), (s.log.filter s.isRnd)[i]? = some k →
    ∃ o n, s.ops[k]? = some o ∧ o.rets[0]? = some n ∧ n.value = some (s.sample i n.size)

/-! ### transfer along `SameVals` -/

theorem skel_op {s s' : State τ} (h : s'.skel = s.skel) {k : Nat} {o : OpInfo τ} (ho : s.ops[k]? = some o) :
    ∃ o', s'.ops[k]? = some o' ∧ o'.kind = o.kind ∧ o'.args = o.args ∧ o'.rets.length = o.rets.length ∧
      o'.rets.map (·.value) = o.rets.map (·.value) ∧ o'.rets.map (·.size) = o.rets.map (·.size) := by
  obtain ⟨o', ho', hk, ha, hr⟩ := view_op_some h ho
  exact ⟨o', ho', hk, ha, rets_of_skel hr⟩

theorem map_value_mem {r r' : List (NodeInfo τ)} (h : r'.map (·.value) = r.map (·.value))
    {n' : NodeInfo τ} (hn : n' ∈ r') : ∃ n ∈ r, n.value = n'.value := by
  have : n'.value ∈ r'.map (·.value) := List.mem_map_of_mem hn
  rw [h] at this
  simpa using this

theorem map_value_getElem? {r r' : List (NodeInfo τ)} (h : r'.map (·.value) = r.map (·.value)) (i : Nat) :
    (r'[i]?).map (·.value) = (r[i]?).map (·.value) := by
  have := congrArg (·[i]?) h
  simpa only [List.getElem?_map] using this

theorem SameVals.validAddr {s s' : State τ} (h : SameVals s s') (a : Addr) :
    s'.validAddr a = s.validAddr a := view_validAddr h.sameFrame.skel a

theorem evaluated_of_skel {s s' : State τ} (h : s'.skel = s.skel) (k : Nat) :
    s'.evaluated k ↔ s.evaluated k := by
  have key : ∀ {s s' : State τ}, s'.skel = s.skel → s.evaluated k → s'.evaluated k := by
    rintro s s' h ⟨o, ho, n, hn, hv⟩
    obtain ⟨o', ho', -, -, -, e, -⟩ := skel_op h ho
    obtain ⟨n', hn', e'⟩ := map_value_mem e.symm hn
    exact ⟨o', ho', n', hn', by rw [e']; exact hv⟩
  exact ⟨key h.symm, key h⟩

theorem SameVals.evaluated {s s' : State τ} (h : SameVals s s') (k : Nat) :
    s'.evaluated k ↔ s.evaluated k := evaluated_of_skel h.sameFrame.skel k

theorem SameVals.isRnd {s s' : State τ} (h : SameVals s s') : s'.isRnd = s.isRnd :=
  view_isRnd h.sameFrame.skel

theorem SameVals.isParam {s s' : State τ} (h : SameVals s s') : s'.isParam = s.isParam :=
  view_isParam h.sameFrame.skel

theorem SameVals.argList {s s' : State τ} (h : SameVals s s') : s'.argList = s.argList :=
  view_argsOf h.sameFrame.skel

theorem SameVals.node_value {s s' : State τ} (h : SameVals s s') (a : Addr) :
    (s'.node? a).map (·.value) = (s.node? a).map (·.value) := by
  simpa [Function.comp_def, NodeInfo.skel] using congrArg (Option.map Prod.snd) (view_node h.sameFrame.skel a)

theorem SameVals.valueOf? {s s' : State τ} (h : SameVals s s') (a : Addr) :
    s'.valueOf? a = s.valueOf? a := skel_valueOf h.sameFrame.skel h.pvalue a

/-- As in `Ext.wf` and `WF.push`: `back` maps every operator of `s'` to one of `s`, then field by field. -/
theorem WF.of_skel {s s' : State τ} (w : WF s) (h : s'.skel = s.skel) (hlog : s'.log = s.log)
    (hrnd : s'.rndPos = s.rndPos) (hsample : s'.sample = s.sample) : WF s' := by
  have hev := evaluated_of_skel h
  have back : ∀ {k : Nat} {o' : OpInfo τ}, s'.ops[k]? = some o' → ∃ o, s.ops[k]? = some o ∧
      o'.kind = o.kind ∧ o'.args = o.args ∧ o'.rets.length = o.rets.length ∧
      o'.rets.map (·.value) = o.rets.map (·.value) := by
    intro k o' ho'
    obtain ⟨o, ho, e1, e2, e3, e4, -⟩ := skel_op h.symm ho'
    exact ⟨o, ho, e1.symm, e2.symm, e3.symm, e4.symm⟩
  constructor
  · intro k o' ho' a ha
    obtain ⟨o, ho, -, e2, -, -⟩ := back ho'
    rw [e2] at ha
    rw [view_validAddr h]
    exact w.args_lt k o ho a ha
  · intro k o' ho'
    obtain ⟨o, ho, e1, e2, e3, -⟩ := back ho'
    rw [e1, e2, e3]; exact w.kind_ok k o ho
  · intro k o' ho'
    obtain ⟨o, ho, -, -, -, hv⟩ := back ho'
    rcases w.all_or_none k o ho with hn | hs
    · left; intro n' hn'
      obtain ⟨n, hn1, e⟩ := map_value_mem hv hn'
      rw [← e]; exact hn n hn1
    · right; intro n' hn'
      obtain ⟨n, hn1, e⟩ := map_value_mem hv hn'
      rw [← e]; exact hs n hn1
  · intro k o' ho' hp n' hn'
    obtain ⟨o, ho, e1, -, -, hv⟩ := back ho'
    obtain ⟨n, hn1, e⟩ := map_value_mem hv hn'
    rw [← e]; exact w.param_none k o ho (e1 ▸ hp) n hn1
  · intro k o' ho' hev' b hb hp
    obtain ⟨o, ho, -, e2, -, -⟩ := back ho'
    rw [e2] at hb
    rw [view_isParam h] at hp
    rw [hev] at hev' ⊢
    exact w.closed k o ho hev' b hb hp
  · intro k; rw [hlog, hev]; exact w.log_iff k
  · rw [hlog]; exact w.log_nodup
  · rw [hlog, hrnd, view_isRnd h]; exact w.rnd_count
  · intro i k hik
    rw [hlog, view_isRnd h] at hik
    obtain ⟨o, n, e1, e2, e3⟩ := w.rnd_vals i k hik
    obtain ⟨o', ho', -, -, -, hv, hsz⟩ := skel_op h e1
    have a1 := map_value_getElem? hv 0
    have a2 := congrArg (·[0]?) hsz
    simp only [List.getElem?_map] at a2
    rw [e2] at a1 a2
    cases hn' : o'.rets[0]? with
    | none => simp [hn'] at a1
    | some n' =>
      simp only [hn', Option.map_some, Option.some.injEq] at a1 a2
      exact ⟨o', n', ho', hn', by rw [a1, e3, a2, hsample]⟩

theorem SameVals.wf {s s' : State τ} (h : SameVals s s') (w : WF s) : WF s' :=
  w.of_skel h.sameFrame.skel h.log h.rndPos h.sample

theorem WF.of_ops_eq {s s' : State τ} (w : WF s) (h1 : s'.ops = s.ops) (h2 : s'.log = s.log)
    (h3 : s'.rndPos = s.rndPos) (h4 : s'.sample = s.sample) : WF s' :=
  w.of_skel (congrArg (List.map OpInfo.skel) h1) h2 h3 h4

/-! ## `Ext s s' l`: `s'` is `s` after the operators `l` have been evaluated -/

/-- operator `o` (unevaluated) became `o'` (evaluated) -/
structure OpStored (o o' : OpInfo τ) : Prop where
  kind : o'.kind = o.kind
  args : o'.args = o.args
  sizes : o'.rets.map (·.size) = o.rets.map (·.size)
  grads : o'.rets.map (·.grad) = o.rets.map (·.grad)
  nonparam : o.kind.isParam = false
  nonempty : o.rets ≠ []
  before : ∀ n ∈ o.rets, n.value = none
  after : ∀ n ∈ o'.rets, n.value.isSome = true

/-- what every operation on a graph preserves of an operator -/
structure OpGrow (o o' : OpInfo τ) : Prop where
  kind : o'.kind = o.kind
  args : o'.args = o.args
  sizes : o'.rets.map (·.size) = o.rets.map (·.size)
  grads : o'.rets.map (·.grad) = o.rets.map (·.grad)
  mono : ∀ (i : Nat) (n : NodeInfo τ) (v : τ), o.rets[i]? = some n → n.value = some v → ∃ n', o'.rets[i]? = some n' ∧ n'.value = some v

theorem OpGrow.refl (o : OpInfo τ) : OpGrow o o := ⟨rfl, rfl, rfl, rfl, fun _ n _ h hv => ⟨n, h, hv⟩⟩

theorem OpStored.grow {o o' : OpInfo τ} (h : OpStored o o') : OpGrow o o' :=
  ⟨h.kind, h.args, h.sizes, h.grads, fun i n v hn hv => by
    have := h.before n (List.mem_of_getElem? hn); simp [this] at hv⟩

theorem OpGrow.length {o o' : OpInfo τ} (h : OpGrow o o') : o'.rets.length = o.rets.length := by
  simpa using congrArg List.length h.sizes

/-- the equation the values of a deterministic operator satisfy right after its evaluation -/
def LocalEq (s : State τ) (k : Nat) : Prop :=
  ∀ (o : OpInfo τ), s.ops[k]? = some o →
    ∃ xs, o.args.mapM s.valueOf? = some xs ∧
      ∀ (sem : OpSem τ), o.kind = .op sem → ∃ ys, sem.fwd xs = some ys ∧
        ∀ (i : Nat) (n : NodeInfo τ), o.rets[i]? = some n → n.value = ys[i]?

/-- `loc` speaks of the final state: each new value is what `fwd` computes from the argument values as
`s'` shows them. -/
structure Ext (s s' : State τ) (l : List Nat) : Prop where
  params : s'.params = s.params
  sample : s'.sample = s.sample
  log : s'.log = s.log ++ l
  rndPos : s'.rndPos = s.rndPos + l.countP s.isRnd
  nodup : l.Nodup
  same : ∀ k, k ∉ l → s'.ops[k]? = s.ops[k]?
  stored : ∀ k ∈ l, ∃ o o', s.ops[k]? = some o ∧ s'.ops[k]? = some o' ∧ OpStored o o'
  loc : ∀ k ∈ l, LocalEq s' k
  /-- the random operators among `l` hold the next samples of the stream, in order -/
  rnd : ∀ (i k : Nat), (l.filter s.isRnd)[i]? = some k →
    ∃ o' n, s'.ops[k]? = some o' ∧ o'.rets[0]? = some n ∧
      n.value = some (s.sample (s.rndPos + i) n.size)

theorem Ext.cases {s s' : State τ} {l : List Nat} (h : Ext s s' l) (k : Nat) :
    (s.ops[k]? = none ∧ s'.ops[k]? = none) ∨
    ∃ o o', s.ops[k]? = some o ∧ s'.ops[k]? = some o' ∧ OpGrow o o' := by
  by_cases hk : k ∈ l
  · obtain ⟨o, o', h1, h2, h3⟩ := h.stored k hk
    exact .inr ⟨o, o', h1, h2, h3.grow⟩
  · have := h.same k hk
    cases h1 : s.ops[k]? with
    | none => exact .inl ⟨rfl, by rw [this, h1]⟩
    | some o => exact .inr ⟨o, o, rfl, by rw [this, h1], OpGrow.refl o⟩

theorem Ext.shape {s s' : State τ} {l : List Nat} (h : Ext s s' l) : s'.shape = s.shape := by
  apply List.ext_getElem?
  intro k
  simp only [State.shape, List.getElem?_map]
  rcases h.cases k with ⟨h1, h2⟩ | ⟨o, o', h1, h2, g⟩
  · rw [h1, h2]
  · rw [h1, h2, Option.map_some, Option.map_some, g.kind, g.args, g.sizes]

theorem Ext.isRnd {s s' : State τ} {l : List Nat} (h : Ext s s' l) : s'.isRnd = s.isRnd := view_isRnd h.shape

theorem Ext.isParam {s s' : State τ} {l : List Nat} (h : Ext s s' l) : s'.isParam = s.isParam :=
  view_isParam h.shape

theorem Ext.argList {s s' : State τ} {l : List Nat} (h : Ext s s' l) : s'.argList = s.argList :=
  view_argsOf h.shape

theorem Ext.anc {s s' : State τ} {l : List Nat} (h : Ext s s' l) : AncOf s' = AncOf s := by
  unfold AncOf; rw [h.argList]

theorem Ext.validAddr {s s' : State τ} {l : List Nat} (h : Ext s s' l) (a : Addr) :
    s'.validAddr a = s.validAddr a := view_validAddr h.shape a

theorem Ext.node_grad {s s' : State τ} {l : List Nat} (h : Ext s s' l) (b : Addr) :
    (s'.node? b).map (·.grad) = (s.node? b).map (·.grad) := by
  unfold State.node?
  rcases h.cases b.oid with ⟨h1, h2⟩ | ⟨o, o', h1, h2, g⟩
  · simp [h1, h2]
  · simp only [h1, h2]
    have := congrArg (·[b.vid]?) g.grads
    simpa only [List.getElem?_map] using this

/-- a request that did not advance the stream evaluated no random source -/
theorem Ext.det_of_rndPos {s s' : State τ} {l : List Nat} (h : Ext s s' l) (hr : s'.rndPos = s.rndPos) :
    ∀ k ∈ l, s.isRnd k = false := by
  have hc : l.countP s.isRnd = 0 := by have := h.rndPos; omega
  intro k hk
  simpa using List.countP_eq_zero.1 hc k hk

theorem Ext.length {s s' : State τ} {l : List Nat} (h : Ext s s' l) : s'.ops.length = s.ops.length :=
  view_length h.shape

theorem Ext.valueOf_mono {s s' : State τ} {l : List Nat} (h : Ext s s' l) {a : Addr} {v : τ}
    (hv : s.valueOf? a = some v) : s'.valueOf? a = some v := by
  unfold State.valueOf? at hv ⊢
  rcases h.cases a.oid with ⟨h1, h2⟩ | ⟨o, o', h1, h2, he⟩
  · simp [h1] at hv
  · simp only [h1, h2, he.kind, h.params] at hv ⊢
    cases hk : o.kind with
    | param p => simpa [hk] using hv
    | rnd | op sem =>
      simp only [hk] at hv ⊢
      cases h3 : o.rets[a.vid]? with
      | none => simp [h3] at hv
      | some n =>
        simp only [h3] at hv
        obtain ⟨n', h4, h5⟩ := he.mono a.vid n v h3 hv
        simp [h4, h5]

theorem Ext.evaluated {s s' : State τ} {l : List Nat} (h : Ext s s' l) (k : Nat) :
    s'.evaluated k ↔ s.evaluated k ∨ k ∈ l := by
  unfold State.evaluated
  by_cases hk : k ∈ l
  · obtain ⟨o, o', h1, h2, h3⟩ := h.stored k hk
    simp only [hk, or_true, iff_true, h2, Option.some.injEq, exists_eq_left']
    have hlen := h3.grow.length
    cases hr : o'.rets with
    | nil => rw [hr] at hlen; exact absurd (List.eq_nil_of_length_eq_zero hlen.symm) h3.nonempty
    | cons n r => exact ⟨n, List.mem_cons_self, h3.after n (hr ▸ List.mem_cons_self)⟩
  · simp [hk, h.same k hk]

theorem Ext.of_eq {s s' : State τ} (hops : s'.ops = s.ops) (hp : s'.params = s.params)
    (hs : s'.sample = s.sample) (hl : s'.log = s.log) (hr : s'.rndPos = s.rndPos) : Ext s s' [] :=
  ⟨hp, hs, by simp [hl], by simp [hr], List.nodup_nil, fun k _ => by rw [hops],
   fun k hk => by simp at hk, fun k hk => by simp at hk, fun i k hik => by simp at hik⟩

theorem OpGrow.node {o o' : OpInfo τ} (h : OpGrow o o') {i : Nat} {n : NodeInfo τ} {v : τ}
    (hn : o.rets[i]? = some n) (hv : n.value = some v) :
    ∃ n', o'.rets[i]? = some n' ∧ n'.value = some v ∧ n'.size = n.size := by
  obtain ⟨n', hn', hv'⟩ := h.mono i n v hn hv
  refine ⟨n', hn', hv', ?_⟩
  have := congrArg (·[i]?) h.sizes
  simp only [List.getElem?_map, hn, hn', Option.map_some, Option.some.injEq] at this
  exact this

theorem Ext.rnd_mono {s s' : State τ} {l : List Nat} (h : Ext s s' l) {k : Nat} {o : OpInfo τ}
    {n : NodeInfo τ} {v : τ} (ho : s.ops[k]? = some o) (hn : o.rets[0]? = some n) (hv : n.value = some v) :
    ∃ o' n', s'.ops[k]? = some o' ∧ o'.rets[0]? = some n' ∧ n'.value = some v ∧ n'.size = n.size := by
  rcases h.cases k with ⟨h1, _⟩ | ⟨o1, o', h1, h2, g⟩
  · rw [ho] at h1; cases h1
  · rw [ho] at h1; cases h1
    obtain ⟨n', a1, a2, a3⟩ := g.node hn hv
    exact ⟨o', n', h2, a1, a2, a3⟩

theorem Ext.refl (s : State τ) : Ext s s [] := Ext.of_eq rfl rfl rfl rfl rfl

theorem LocalEq.mono {s s' : State τ} {l : List Nat} (h : Ext s s' l) {k : Nat} (hk : k ∉ l)
    (he : LocalEq s k) : LocalEq s' k := by
  intro o ho
  rw [h.same k hk] at ho
  obtain ⟨xs, h1, h2⟩ := he o ho
  exact ⟨xs, mapM_mono (fun a _ b hb => h.valueOf_mono hb) h1, h2⟩

theorem Ext.disjoint {s s1 s2 : State τ} {l1 l2 : List Nat} (h1 : Ext s s1 l1) (h2 : Ext s1 s2 l2)
    {k : Nat} (hk1 : k ∈ l1) (hk2 : k ∈ l2) : False := by
  obtain ⟨o, o', _, e2, st⟩ := h1.stored k hk1
  obtain ⟨p, p', e3, _, st'⟩ := h2.stored k hk2
  rw [e2] at e3; cases e3
  cases hr : o'.rets with
  | nil => exact st'.nonempty hr
  | cons n r =>
    have a1 := st.after n (hr ▸ List.mem_cons_self)
    have a2 := st'.before n (hr ▸ List.mem_cons_self)
    simp [a2] at a1

theorem Ext.trans {s s1 s2 : State τ} {l1 l2 : List Nat} (h1 : Ext s s1 l1) (h2 : Ext s1 s2 l2) :
    Ext s s2 (l1 ++ l2) := by
  have hdis : ∀ k, k ∈ l1 → k ∈ l2 → False := fun k => h1.disjoint h2
  refine ⟨h2.params.trans h1.params, h2.sample.trans h1.sample, ?_, ?_, ?_, ?_, ?_, ?_, ?_⟩
  · rw [h2.log, h1.log, List.append_assoc]
  · rw [h2.rndPos, h1.rndPos, h1.isRnd, List.countP_append, Nat.add_assoc]
  · rw [List.nodup_append]
    exact ⟨h1.nodup, h2.nodup, fun a ha b hb hab => hdis a ha (hab ▸ hb)⟩
  · intro k hk
    simp only [List.mem_append, not_or] at hk
    rw [h2.same k hk.2, h1.same k hk.1]
  · intro k hk
    rcases List.mem_append.1 hk with hk | hk
    · obtain ⟨o, o', e1, e2, st⟩ := h1.stored k hk
      exact ⟨o, o', e1, by rw [h2.same k (fun h => hdis k hk h), e2], st⟩
    · obtain ⟨o, o', e1, e2, st⟩ := h2.stored k hk
      exact ⟨o, o', by rw [← h1.same k (fun h => hdis k h hk), e1], e2, st⟩
  · intro k hk
    rcases List.mem_append.1 hk with hk | hk
    · exact LocalEq.mono h2 (fun h => hdis k hk h) (h1.loc k hk)
    · exact h2.loc k hk
  · intro i k hik
    rw [List.filter_append] at hik
    by_cases hi : i < (l1.filter s.isRnd).length
    · rw [List.getElem?_append_left hi] at hik
      obtain ⟨o', n, e1, e2, e3⟩ := h1.rnd i k hik
      obtain ⟨o2, n2, f1, f2, f3, f4⟩ := h2.rnd_mono e1 e2 e3
      exact ⟨o2, n2, f1, f2, by rw [f3, f4]⟩
    · rw [List.getElem?_append_right (Nat.le_of_not_lt hi)] at hik
      have hik' : (l2.filter s1.isRnd)[i - (l1.filter s.isRnd).length]? = some k := by
        rw [h1.isRnd]; exact hik
      obtain ⟨o', n, e1, e2, e3⟩ := h2.rnd _ k hik'
      have : s1.rndPos + (i - (l1.filter s.isRnd).length) = s.rndPos + i := by
        rw [h1.rndPos, List.countP_eq_length_filter]; omega
      rw [h1.sample, this] at e3
      exact ⟨o', n, e1, e2, e3⟩

theorem evaluated_of_valueOf? {s : State τ} {b : Addr} {v : τ} (hv : s.valueOf? b = some v)
    (hp : s.isParam b.oid = false) : s.evaluated b.oid := by
  unfold State.valueOf? at hv
  unfold State.isParam at hp
  cases ho : s.ops[b.oid]? with
  | none => simp [ho] at hv
  | some o =>
    simp only [ho] at hv hp
    cases hk : o.kind with
    | param p => simp [hk, Kind.isParam] at hp
    | rnd | op sem =>
      simp only [hk] at hv
      cases hn : o.rets[b.vid]? with
      | none => simp [hn] at hv
      | some n => simp only [hn] at hv; exact ⟨o, ho, n, List.mem_of_getElem? hn, by simp [hv]⟩

theorem Ext.wf {s s' : State τ} {l : List Nat} (h : Ext s s' l) (w : WF s) : WF s' := by
  have back : ∀ {k : Nat} {o' : OpInfo τ}, s'.ops[k]? = some o' →
      ∃ o, s.ops[k]? = some o ∧ OpGrow o o' := by
    intro k o' ho'
    rcases h.cases k with ⟨h1, h2⟩ | ⟨o, o2, h1, h2, he⟩
    · simp [h2] at ho'
    · rw [h2] at ho'; cases ho'; exact ⟨o, h1, he⟩
  constructor
  · intro k o' ho' a ha
    obtain ⟨o, ho, he⟩ := back ho'
    rw [he.args] at ha
    rw [h.validAddr]
    exact w.args_lt k o ho a ha
  · intro k o' ho'
    obtain ⟨o, ho, he⟩ := back ho'
    rw [he.kind, he.args, he.length]; exact w.kind_ok k o ho
  · intro k o' ho'
    by_cases hk : k ∈ l
    · obtain ⟨o, o2, e1, e2, st⟩ := h.stored k hk
      rw [e2] at ho'; cases ho'
      exact .inr st.after
    · rw [h.same k hk] at ho'; exact w.all_or_none k o' ho'
  · intro k o' ho' hp
    by_cases hk : k ∈ l
    · obtain ⟨o, o2, e1, e2, st⟩ := h.stored k hk
      rw [e2] at ho'; cases ho'
      rw [st.kind, st.nonparam] at hp; cases hp
    · rw [h.same k hk] at ho'; exact w.param_none k o' ho' hp
  · intro k o' ho' hev b hb hp
    by_cases hk : k ∈ l
    · obtain ⟨xs, hxs, -⟩ := h.loc k hk o' ho'
      obtain ⟨v, hv⟩ := mapM_some_mem hxs b hb
      exact evaluated_of_valueOf? hv hp
    · rw [h.same k hk] at ho'
      rw [h.isParam] at hp
      rw [h.evaluated] at hev ⊢
      rcases hev with hev | hev
      · exact .inl (w.closed k o' ho' hev b hb hp)
      · exact absurd hev hk
  · intro k; rw [h.log, h.evaluated, List.mem_append, w.log_iff]
  · rw [h.log, List.nodup_append]
    refine ⟨w.log_nodup, h.nodup, fun a ha b hb hab => ?_⟩
    subst hab
    obtain ⟨o, o2, e1, e2, st⟩ := h.stored a hb
    obtain ⟨o3, e3, n, hn, hv⟩ := (w.log_iff a).1 ha
    rw [e1] at e3; cases e3
    simp [st.before n hn] at hv
  · rw [h.log, h.rndPos, h.isRnd, List.countP_append, w.rnd_count]
  · intro i k hik
    rw [h.log, h.isRnd, List.filter_append] at hik
    by_cases hi : i < (s.log.filter s.isRnd).length
    · rw [List.getElem?_append_left hi] at hik
      obtain ⟨o, n, e1, e2, e3⟩ := w.rnd_vals i k hik
      obtain ⟨o2, n2, f1, f2, f3, f4⟩ := h.rnd_mono e1 e2 e3
      exact ⟨o2, n2, f1, f2, by rw [f3, f4, h.sample]⟩
    · rw [List.getElem?_append_right (Nat.le_of_not_lt hi)] at hik
      obtain ⟨o', n, e1, e2, e3⟩ := h.rnd _ k hik
      have : s.rndPos + (i - (s.log.filter s.isRnd).length) = i := by
        rw [w.rnd_count, List.countP_eq_length_filter]; omega
      rw [this] at e3
      exact ⟨o', n, e1, e2, by rw [e3, h.sample]⟩

/-- the return values that `State.storeValues` writes (its inner `let`, given a name) -/
def storeRets (rets : List (NodeInfo τ)) (vals : List τ) : List (NodeInfo τ) :=
  rets.zipIdx.map fun (n, i) =>
    match vals[i]? with
    | some v => { n with value := some v }
    | none => n

theorem storeRets_getElem? (rets : List (NodeInfo τ)) (vals : List τ) (i : Nat) :
    (storeRets rets vals)[i]? = (rets[i]?).map fun n =>
      match vals[i]? with
      | some v => { n with value := some v }
      | none => n := by
  simp [storeRets, List.getElem?_zipIdx]
  cases rets[i]? <;> simp

theorem storeRets_map_size (rets : List (NodeInfo τ)) (vals : List τ) :
    (storeRets rets vals).map (·.size) = rets.map (·.size) := by
  apply List.ext_getElem?
  intro i
  simp only [List.getElem?_map, storeRets_getElem?]
  cases rets[i]? <;> simp
  cases vals[i]? <;> rfl

theorem storeRets_map_grad (rets : List (NodeInfo τ)) (vals : List τ) :
    (storeRets rets vals).map (·.grad) = rets.map (·.grad) := by
  apply List.ext_getElem?
  intro i
  simp only [List.getElem?_map, storeRets_getElem?]
  cases rets[i]? <;> simp
  cases vals[i]? <;> rfl

theorem storeRets_value (rets : List (NodeInfo τ)) (vals : List τ) (hlen : rets.length ≤ vals.length)
    (i : Nat) (n : NodeInfo τ) (h : (storeRets rets vals)[i]? = some n) : n.value = vals[i]? := by
  rw [storeRets_getElem?] at h
  cases hr : rets[i]? with
  | none => simp [hr] at h
  | some m =>
    have hi : i < vals.length := Nat.lt_of_lt_of_le (List.getElem?_eq_some_iff.1 hr).1 hlen
    simp only [hr, Option.map_some, List.getElem?_eq_getElem hi, Option.some.injEq] at h
    rw [← h, List.getElem?_eq_getElem hi]

theorem storeValues_of_some {s : State τ} {k : Nat} {o : OpInfo τ} (vals : List τ)
    (h : s.ops[k]? = some o) :
    s.storeValues k vals = { s with ops := s.ops.set k { o with rets := storeRets o.rets vals } } := by
  unfold State.storeValues
  rw [h]
  rfl

theorem State.valueOf?_congr {s s' : State τ} {a : Addr} (h : s'.ops[a.oid]? = s.ops[a.oid]?)
    (hp : s'.params = s.params) : s'.valueOf? a = s.valueOf? a := by
  unfold State.valueOf?; rw [h, hp]

theorem Ext.step {s1 sA : State τ} {k : Nat} {o : OpInfo τ} {ys : List τ}
    (ho : s1.ops[k]? = some o) (hops : sA.ops = s1.ops) (hp : sA.params = s1.params)
    (hs : sA.sample = s1.sample) (hl : sA.log = s1.log ++ [k])
    (hr : sA.rndPos = if o.kind.isRnd then s1.rndPos + 1 else s1.rndPos)
    (hnp : o.kind.isParam = false) (hne : o.rets ≠ []) (hbefore : ∀ n ∈ o.rets, n.value = none)
    (hlen : o.rets.length ≤ ys.length)
    (hargs : ∀ b ∈ o.args, b.oid ≠ k)
    (hloc : ∃ xs, o.args.mapM s1.valueOf? = some xs ∧ ∀ sem, o.kind = .op sem → sem.fwd xs = some ys)
    (hrnd : o.kind.isRnd = true →
      ∃ n, o.rets[0]? = some n ∧ ys[0]? = some (s1.sample s1.rndPos n.size)) :
    Ext s1 (sA.storeValues k ys) [k] := by
  have hoA : sA.ops[k]? = some o := by rw [hops]; exact ho
  have hklt : k < s1.ops.length := (List.getElem?_eq_some_iff.1 ho).1
  rw [storeValues_of_some ys hoA]
  have hget : ∀ j, (sA.ops.set k { o with rets := storeRets o.rets ys })[j]? =
      if j = k then some { o with rets := storeRets o.rets ys } else s1.ops[j]? := by
    intro j
    rw [hops, List.getElem?_set]
    by_cases hj : k = j
    · subst hj; simp [hklt]
    · simp [hj, Ne.symm hj]
  refine ⟨hp, hs, hl, ?_, (by simp), ?_, ?_, ?_, ?_⟩
  · simp only [hr, List.countP_singleton, State.isRnd, ho]
    cases o.kind.isRnd <;> rfl
  · intro j hj
    simp only [List.mem_singleton] at hj
    show (sA.ops.set k _)[j]? = _
    rw [hget, if_neg hj]
  · intro j hj
    simp only [List.mem_singleton] at hj; subst hj
    refine ⟨o, { o with rets := storeRets o.rets ys }, ho, ?_, ?_⟩
    · show (sA.ops.set j _)[j]? = _
      rw [hget, if_pos rfl]
    · refine ⟨rfl, rfl, storeRets_map_size _ _, storeRets_map_grad _ _, hnp, hne, hbefore, ?_⟩
      intro n hn
      obtain ⟨i, hi⟩ := List.getElem?_of_mem hn
      have := storeRets_value o.rets ys hlen i n hi
      have hi' : i < ys.length := by
        have := (List.getElem?_eq_some_iff.1 hi).1
        simp [storeRets] at this; omega
      rw [this, List.getElem?_eq_getElem hi']; rfl
  · intro j hj
    simp only [List.mem_singleton] at hj; subst hj
    intro o' ho'
    change (sA.ops.set j _)[j]? = _ at ho'
    rw [hget, if_pos rfl] at ho'
    cases ho'
    obtain ⟨xs, hx1, hx2⟩ := hloc
    refine ⟨xs, ?_, fun sem hkind => ⟨ys, hx2 sem hkind, fun i n hi => storeRets_value o.rets ys hlen i n hi⟩⟩
    rw [← hx1]
    apply mapM_congr
    intro b hb
    apply State.valueOf?_congr
    · show (sA.ops.set j _)[b.oid]? = _
      rw [hget, if_neg (hargs b hb)]
    · exact hp
  · intro i j hij
    have hisr : s1.isRnd k = o.kind.isRnd := by simp [State.isRnd, ho]
    simp only [List.filter_cons, List.filter_nil, hisr] at hij
    cases hkr : o.kind.isRnd with
    | false => simp [hkr] at hij
    | true =>
      simp only [hkr, if_true] at hij
      cases i with
      | succ i => simp at hij
      | zero =>
        simp only [List.getElem?_cons_zero, Option.some.injEq] at hij
        subst hij
        obtain ⟨n, hn, hy⟩ := hrnd hkr
        refine ⟨{ o with rets := storeRets o.rets ys },
          { n with value := some (s1.sample s1.rndPos n.size) }, ?_, ?_, ?_⟩
        · show (sA.ops.set k _)[k]? = _
          rw [hget, if_pos rfl]
        · simp [storeRets_getElem?, hn, hy]
        · simp

end Primitiv.Graph
