import Mathlib.Analysis.SpecialFunctions.ExpDeriv
import Mathlib.Analysis.SpecialFunctions.Log.Deriv
import Mathlib.Order.Filter.Finite
import PrimitivModel.Lemmas.GraphTangentOps
/-!
Helpers for Props/C01/ChainSoftmax.lean: operators with one argument and one return value given by
a function on vectors (`vecOp`), `lse` (logsumexp), `smax` (softmax) and the derivative of `lse`
along a curve, `vmax` / `vmin` and their derivative along a curve at a point without ties.
-/
namespace Primitiv.Graph
open Finset

/-- `y = F x`; the backward rule adds `Bw x y gy` into the argument's gradient -/
def vecOp (F : Vec ℝ → Vec ℝ) (Bw : Vec ℝ → Vec ℝ → Vec ℝ → Vec ℝ) : OpSem (Vec ℝ) where
  nret := 1
  fwd := fun xs => match xs with
    | [x] => some [F x]
    | _ => none
  bwd := fun xs ys gys => match xs, ys, gys with
    | [x], [y], [g] => [some (Bw x y g)]
    | _, _, _ => []

def vecJvp (D : Vec ℝ → Vec ℝ → Vec ℝ) : Jvp := fun xs ts => match xs, ts with
  | [x], [t] => [D x t]
  | _, _ => []

theorem vecOp_nret_le {F : Vec ℝ → Vec ℝ} {Bw : Vec ℝ → Vec ℝ → Vec ℝ → Vec ℝ} {xs ys : List (Vec ℝ)}
    (h : (vecOp F Bw).fwd xs = some ys) : (vecOp F Bw).nret ≤ ys.length :=
  match xs, h with
  | [_], rfl => Nat.le_refl 1

theorem dot_one (g t : Vec ℝ) : dot 1 g t = g 0 * t 0 := by simp [dot]

noncomputable def lse (n : Nat) (x : Vec ℝ) : ℝ := Real.log (∑ i ∈ range n, Real.exp (x i))

/-- `softmax(x)_i = exp (x_i − lse x)` -/
noncomputable def smax (n : Nat) (x : Vec ℝ) (i : Nat) : ℝ := Real.exp (x i - lse n x)

theorem sumExp_pos {n : Nat} (hn : 0 < n) (x : Vec ℝ) : 0 < ∑ i ∈ range n, Real.exp (x i) :=
  sum_pos (fun _ _ => Real.exp_pos _) ⟨0, mem_range.2 hn⟩

theorem smax_eq {n : Nat} (hn : 0 < n) (x : Vec ℝ) (i : Nat) :
    smax n x i = Real.exp (x i) / ∑ k ∈ range n, Real.exp (x k) := by
  unfold smax lse
  rw [Real.exp_sub, Real.exp_log (sumExp_pos hn x)]

theorem lse_hasDerivAt {n : Nat} (hn : 0 < n) (x : ℝ → Vec ℝ) (t : Vec ℝ)
    (h : ∀ i, i < n → HasDerivAt (fun ε => x ε i) (t i) 0) :
    HasDerivAt (fun ε => lse n (x ε)) (∑ i ∈ range n, smax n (x 0) i * t i) 0 := by
  have hS : HasDerivAt (fun ε => ∑ i ∈ range n, Real.exp (x ε i)) (∑ i ∈ range n, Real.exp (x 0 i) * t i) 0 :=
    HasDerivAt.fun_sum fun i hi => (h i (mem_range.1 hi)).exp
  have hpos := sumExp_pos hn (x 0)
  have hL := hS.log hpos.ne'
  unfold lse
  refine hL.congr_deriv ?_
  rw [div_eq_mul_inv, sum_mul]
  refine sum_congr rfl fun i _ => ?_
  rw [smax_eq hn]
  ring

theorem smax_hasDerivAt {n : Nat} (hn : 0 < n) (x : ℝ → Vec ℝ) (t : Vec ℝ)
    (h : ∀ i, i < n → HasDerivAt (fun ε => x ε i) (t i) 0) (i : Nat) (hi : i < n) :
    HasDerivAt (fun ε => smax n (x ε) i)
      (smax n (x 0) i * (t i - ∑ k ∈ range n, smax n (x 0) k * t k)) 0 := by
  unfold smax
  exact ((h i hi).sub (lse_hasDerivAt hn x t h)).exp

/-- the maximum of the first `n` entries (0 for `n = 0`) -/
noncomputable def vmax (n : Nat) (x : Vec ℝ) : ℝ :=
  if h : 0 < n then (range n).sup' ⟨0, mem_range.2 h⟩ x else 0

/-- the minimum of the first `n` entries (0 for `n = 0`) -/
noncomputable def vmin (n : Nat) (x : Vec ℝ) : ℝ :=
  if h : 0 < n then (range n).inf' ⟨0, mem_range.2 h⟩ x else 0

theorem vmax_eq {n k : Nat} (hk : k < n) (x : Vec ℝ) (h : ∀ i, i < n → i ≠ k → x i < x k) : vmax n x = x k := by
  unfold vmax
  rw [dif_pos (Nat.lt_of_le_of_lt (Nat.zero_le _) hk)]
  refine le_antisymm (Finset.sup'_le _ _ fun i hi => ?_) (Finset.le_sup' x (mem_range.2 hk))
  by_cases hik : i = k
  · rw [hik]
  · exact (h i (mem_range.1 hi) hik).le

theorem vmin_eq {n k : Nat} (hk : k < n) (x : Vec ℝ) (h : ∀ i, i < n → i ≠ k → x k < x i) : vmin n x = x k := by
  unfold vmin
  rw [dif_pos (Nat.lt_of_le_of_lt (Nat.zero_le _) hk)]
  refine le_antisymm (Finset.inf'_le x (mem_range.2 hk)) (Finset.le_inf' _ _ fun i hi => ?_)
  by_cases hik : i = k
  · rw [hik]
  · exact (h i (mem_range.1 hi) hik).le

theorem eventually_forall_lt {n : Nat} {P : Nat → Prop} {f g : Nat → ℝ → ℝ}
    (hf : ∀ i, i < n → ContinuousAt (f i) 0) (hg : ∀ i, i < n → ContinuousAt (g i) 0)
    (h0 : ∀ i, i < n → P i → f i 0 < g i 0) :
    ∀ᶠ ε in nhds (0 : ℝ), ∀ i, i < n → P i → f i ε < g i ε := by
  have : ∀ᶠ ε in nhds (0 : ℝ), ∀ i ∈ range n, P i → f i ε < g i ε := by
    rw [Filter.eventually_all_finset]
    intro i hi
    by_cases hP : P i
    · exact ((hf i (mem_range.1 hi)).eventually_lt (hg i (mem_range.1 hi)) (h0 i (mem_range.1 hi) hP)).mono
        fun ε hε _ => hε
    · exact Filter.Eventually.of_forall fun ε h' => absurd h' hP
  exact this.mono fun ε hε i hi => hε i (mem_range.2 hi)

theorem vmax_hasDerivAt {n k : Nat} (hk : k < n) (x : ℝ → Vec ℝ) (t : Vec ℝ)
    (h : ∀ i, i < n → HasDerivAt (fun ε => x ε i) (t i) 0)
    (huniq : ∀ i, i < n → i ≠ k → x 0 i < x 0 k) :
    HasDerivAt (fun ε => vmax n (x ε)) (t k) 0 :=
  (h k hk).congr_of_eventuallyEq <|
    (eventually_forall_lt (fun i hi => (h i hi).continuousAt) (fun _ _ => (h k hk).continuousAt) huniq).mono
      fun ε hε => vmax_eq hk (x ε) hε

theorem vmin_hasDerivAt {n k : Nat} (hk : k < n) (x : ℝ → Vec ℝ) (t : Vec ℝ)
    (h : ∀ i, i < n → HasDerivAt (fun ε => x ε i) (t i) 0)
    (huniq : ∀ i, i < n → i ≠ k → x 0 k < x 0 i) :
    HasDerivAt (fun ε => vmin n (x ε)) (t k) 0 :=
  (h k hk).congr_of_eventuallyEq <|
    (eventually_forall_lt (fun _ _ => (h k hk).continuousAt) (fun i hi => (h i hi).continuousAt) huniq).mono
      fun ε hε => vmin_eq hk (x ε) hε

/-- logsumexp over the whole vector of `n` elements; backward `gx_i += gy · exp (x_i − y)` -/
noncomputable def lseOp (n : Nat) : OpSem (Vec ℝ) :=
  vecOp (fun x _ => lse n x) (fun x y g i => g 0 * Real.exp (x i - y 0))
noncomputable def lseD (n : Nat) : Vec ℝ → Vec ℝ → Vec ℝ := fun x t _ => ∑ i ∈ range n, smax n x i * t i

/-- softmax over the whole vector; backward `gx_i += y_i · (gy_i − Σ_k gy_k y_k)` -/
noncomputable def softmaxOp (n : Nat) : OpSem (Vec ℝ) :=
  vecOp (fun x i => smax n x i) (fun _ y g i => y i * (g i - ∑ k ∈ range n, g k * y k))
noncomputable def softmaxD (n : Nat) : Vec ℝ → Vec ℝ → Vec ℝ :=
  fun x t i => smax n x i * (t i - ∑ k ∈ range n, smax n x k * t k)

/-- log_softmax over the whole vector; backward `gx_i += gy_i − exp(y_i) · Σ_k gy_k` -/
noncomputable def logSoftmaxOp (n : Nat) : OpSem (Vec ℝ) :=
  vecOp (fun x i => x i - lse n x) (fun _ y g i => g i - Real.exp (y i) * ∑ k ∈ range n, g k)
noncomputable def logSoftmaxD (n : Nat) : Vec ℝ → Vec ℝ → Vec ℝ :=
  fun x t i => t i - ∑ k ∈ range n, smax n x k * t k

/-- dense softmax cross entropy with the constant target `tgt`: `y = −Σ_i tgt_i · log_softmax(x)_i`;
backward `gx_i += gy · (softmax(x)_i · Σ_k tgt_k − tgt_i)` -/
noncomputable def sceOp (n : Nat) (tgt : Vec ℝ) : OpSem (Vec ℝ) :=
  vecOp (fun x _ => -∑ i ∈ range n, tgt i * (x i - lse n x))
    (fun x _ g i => g 0 * (smax n x i * (∑ k ∈ range n, tgt k) - tgt i))
noncomputable def sceD (n : Nat) (tgt : Vec ℝ) : Vec ℝ → Vec ℝ → Vec ℝ :=
  fun x t _ => -∑ i ∈ range n, tgt i * (t i - ∑ k ∈ range n, smax n x k * t k)

/-- max over the whole vector; backward routes `gy` to the entries equal to the maximum -/
noncomputable def maxOp (n : Nat) : OpSem (Vec ℝ) :=
  vecOp (fun x _ => vmax n x) (fun x y g i => if x i = y 0 then g 0 else 0)
/-- min over the whole vector; backward routes `gy` to the entries equal to the minimum -/
noncomputable def minOp (n : Nat) : OpSem (Vec ℝ) :=
  vecOp (fun x _ => vmin n x) (fun x y g i => if x i = y 0 then g 0 else 0)
/-- the Jacobian-vector product of max / min at a point whose extremum is attained only at `k` -/
def pickD (k : Nat) : Vec ℝ → Vec ℝ → Vec ℝ := fun _ t _ => t k

/-- the backward rule of max / min is the transpose of `pickD k` where the extremum `y` is attained at
`k` only -/
theorem dot_pick {n k : Nat} (hk : k < n) {x : Vec ℝ} {y : ℝ} (hy : y = x k)
    (huniq : ∀ i, i < n → i ≠ k → x i ≠ x k) (g t : Vec ℝ) :
    dot n (fun i => if x i = y then g 0 else 0) t = dot 1 g (pickD k x t) := by
  subst hy
  rw [dot_one]
  unfold dot pickD
  rw [sum_eq_single k]
  · show (if x k = x k then g 0 else 0) * t k = g 0 * t k
    rw [if_pos rfl]
  · intro i hi hik
    show (if x i = x k then g 0 else 0) * t i = 0
    rw [if_neg (huniq i (mem_range.1 hi) hik), zero_mul]
  · exact fun h => absurd (mem_range.2 hk) h

theorem softmax_adj_aux (n : Nat) (y g t : Vec ℝ) :
    ∑ i ∈ range n, y i * (g i - ∑ k ∈ range n, g k * y k) * t i
      = ∑ i ∈ range n, g i * (y i * (t i - ∑ k ∈ range n, y k * t k)) := by
  have h1 : ∀ G : ℝ, ∑ i ∈ range n, y i * (g i - G) * t i
      = ∑ i ∈ range n, g i * y i * t i - (∑ k ∈ range n, y k * t k) * G := by
    intro G; rw [sum_mul, ← sum_sub_distrib]; exact sum_congr rfl fun i _ => by ring
  have h2 : ∀ T : ℝ, ∑ i ∈ range n, g i * (y i * (t i - T))
      = ∑ i ∈ range n, g i * y i * t i - (∑ k ∈ range n, g k * y k) * T := by
    intro T; rw [sum_mul, ← sum_sub_distrib]; exact sum_congr rfl fun i _ => by ring
  rw [h1, h2]; ring

theorem logSoftmax_adj_aux (n : Nat) (s g t : Vec ℝ) :
    ∑ i ∈ range n, (g i - s i * ∑ k ∈ range n, g k) * t i
      = ∑ i ∈ range n, g i * (t i - ∑ k ∈ range n, s k * t k) := by
  have h1 : ∀ G : ℝ, ∑ i ∈ range n, (g i - s i * G) * t i
      = ∑ i ∈ range n, g i * t i - (∑ k ∈ range n, s k * t k) * G := by
    intro G; rw [sum_mul, ← sum_sub_distrib]; exact sum_congr rfl fun i _ => by ring
  have h2 : ∀ T : ℝ, ∑ i ∈ range n, g i * (t i - T)
      = ∑ i ∈ range n, g i * t i - (∑ k ∈ range n, g k) * T := by
    intro T; rw [sum_mul, ← sum_sub_distrib]; exact sum_congr rfl fun i _ => by ring
  rw [h1, h2]; ring

theorem sce_adj_aux (n : Nat) (s tgt t : Vec ℝ) (g0 : ℝ) :
    ∑ i ∈ range n, g0 * (s i * (∑ k ∈ range n, tgt k) - tgt i) * t i
      = g0 * -∑ i ∈ range n, tgt i * (t i - ∑ k ∈ range n, s k * t k) := by
  have h1 : ∀ G : ℝ, ∑ i ∈ range n, g0 * (s i * G - tgt i) * t i
      = g0 * ((∑ k ∈ range n, s k * t k) * G - ∑ i ∈ range n, tgt i * t i) := by
    intro G; rw [sum_mul, ← sum_sub_distrib, mul_sum]; exact sum_congr rfl fun i _ => by ring
  have h2 : ∀ T : ℝ, ∑ i ∈ range n, tgt i * (t i - T)
      = ∑ i ∈ range n, tgt i * t i - (∑ k ∈ range n, tgt k) * T := by
    intro T; rw [sum_mul, ← sum_sub_distrib]; exact sum_congr rfl fun i _ => by ring
  rw [h1, h2]; ring

end Primitiv.Graph
