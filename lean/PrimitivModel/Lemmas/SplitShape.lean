import PrimitivModel.Lemmas.Shape
/-
What Props/C04/Split.lean needs beyond the agreement lemmas of Lemmas/Shape.lean: when the two Split
rules accept, and that the slice bounds `i * span`, `(i + 1) * span` computed in 32 bits are exact.
-/
namespace Primitiv.ShapeL
open Primitiv

theorem updateDim_one_beyond {x : Shape} (hx : x.Canonical) {d : Nat} (hd : x.depth ≤ d) (hd8 : d < 8) :
    x.updateDim d 1 = .ok x := by
  have hg : x.get d = 1 := Shape.get_of_short hd
  have hv := hx.vol_lt
  have hb := hx.bound
  have htrim : trim ((x.dims ++ List.replicate (d + 1 - x.depth) 1).set d 1) = x.dims := by
    -- `htrim` has to be in the model's words (`x.depth`) for the `simp only` below; `pad_eq` is in
    -- terms of `x.dims.length`, and `rw` does not see through `depth`
    show trim ((x.dims ++ List.replicate (d + 1 - x.dims.length) 1).set d 1) = _
    rw [← pad_eq, trim_set_one_eq_iff.2 fun i _ => getD_pad x.dims d i, List.set_eq_of_length_le hd,
      hx.trimmed]
  unfold Shape.updateDim
  rw [if_neg (by omega), if_neg (by omega)]
  simp only [hg, if_pos (show d ≥ x.depth from hd), Nat.div_one, Nat.mul_one, htrim]
  rw [if_neg (by omega), if_neg (by womega)]
  rfl

/-- Slice `i` of `n` of an axis (or batch) of size `total`, `span = total / n`; the conjuncts are what
the guards of `slice`/`batchSlice` and `sub32_eq` ask for. -/
theorem span_exact {total n i : Nat} (ht : total < W) (hpos : 0 < total) (hm : mul32 (total / n) n = total)
    (hi : i < n) :
    mul32 i (total / n) = i * (total / n) ∧ mul32 (i + 1) (total / n) = i * (total / n) + total / n ∧
    0 < total / n ∧ i * (total / n) + total / n ≤ total ∧ i * (total / n) + total / n < W := by
  have h2 : total / n * n = total := by rwa [mul32_div_mul n ht] at hm
  have hs : 0 < total / n := Nat.pos_of_mul_pos_right (h2 ▸ hpos)
  have h3 : (i + 1) * (total / n) ≤ n * (total / n) := Nat.mul_le_mul_right _ hi
  rw [Nat.succ_mul, Nat.mul_comm n, h2] at h3
  unfold mul32
  rw [Nat.succ_mul]
  generalize i * (total / n) = a at *
  exact ⟨Nat.mod_eq_of_lt (by omega), Nat.mod_eq_of_lt (by omega), hs, by omega, by omega⟩

theorem split_ok_iff {x : Shape} {d n : Nat} {s : Shape} :
    ShapeOps.split x d n = .ok s ↔
      n ≠ 0 ∧ mul32 (x.get d / n) n = x.get d ∧ x.updateDim d (x.get d / n) = .ok s := by
  unfold ShapeOps.split
  by_cases hn : n = 0
  · simp [hn, throwError]
  · by_cases hm : mul32 (x.get d / n) n = x.get d <;> simp [hn, hm, throwError]

theorem batchSplit_ok_iff {x : Shape} {n : Nat} {s : Shape} :
    ShapeOps.batchSplit x n = .ok s ↔
      n ≠ 0 ∧ mul32 (x.batch / n) n = x.batch ∧ x.updateBatch (x.batch / n) = .ok s := by
  unfold ShapeOps.batchSplit
  by_cases hn : n = 0
  · simp [hn, throwError]
  · by_cases hm : mul32 (x.batch / n) n = x.batch <;> simp [hn, hm, throwError]

end Primitiv.ShapeL
