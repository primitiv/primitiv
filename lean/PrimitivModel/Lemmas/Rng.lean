import PrimitivModel.Model.Rng
import Mathlib.Order.SuccPred.Basic
import Mathlib.Algebra.Field.Basic
/-
Assumptions under which the theorems of C17 read the scalar interface `Sc`.
The generated definitions are polymorphic in `Sc α`; a
theorem fixes the meaning of the operations it needs by one of the predicates
below (every other field of `S` stays arbitrary).  After them: `deviceRandom_eq`
(the device front-end is its guard, then the fill) and the index facts of the
initializers (`conv_fans`, `diag_index`, `deviceIdentity_spec`).
-/
namespace Primitiv.Rng
open Primitiv

/-- `S` compares like IEEE floating point over the linear order `α`: `some x`
are the ordered values (±∞ are ordinary elements of `α`), `none` is NaN – every
comparison with it is false.  `lit n` is the value of the integer literal `n`. -/
structure IeeeCmp {α : Type} [LinearOrder α] (S : Sc (Option α)) (lit : Nat → α) : Prop where
  lt_some : ∀ x y, S.lt (some x) (some y) = decide (x < y)
  lt_nan_left : ∀ b, S.lt none b = false
  lt_nan_right : ∀ a, S.lt a none = false
  le_some : ∀ x y, S.le (some x) (some y) = decide (x ≤ y)
  le_nan_left : ∀ b, S.le none b = false
  le_nan_right : ∀ a, S.le a none = false
  ofNat : ∀ n, S.ofNat n = some (lit n)

/-- `S.lt` is the order of a discrete linear order and `S.nextafter a b` is the
neighbour of `a` in the direction of `b` (`std::nextafter`; the case `b < a` is
never used by the code). -/
structure SuccNext {α : Type} [LinearOrder α] [SuccOrder α] (S : Sc α) : Prop where
  lt : ∀ a b, S.lt a b = decide (a < b)
  next_lt : ∀ a b, a < b → S.nextafter a b = Order.succ a
  next_eq : ∀ a, S.nextafter a a = a

/-- Exact arithmetic: the operations of `S` are those of a field that also has a
linear order (nothing relates the two: no theorem needs it) and `narrow` (the
double → float rounding) is the identity.  `S.sqrt`, `S.exp` and `S.nextafter`
stay uninterpreted. -/
structure ExactArith {α : Type} [Field α] [LinearOrder α] (S : Sc α) : Prop where
  lt : ∀ a b, S.lt a b = decide (a < b)
  le : ∀ a b, S.le a b = decide (a ≤ b)
  eq : ∀ a b, S.eq a b = decide (a = b)
  add : ∀ a b, S.add a b = a + b
  sub : ∀ a b, S.sub a b = a - b
  mul : ∀ a b, S.mul a b = a * b
  div : ∀ a b, S.div a b = a / b
  neg : ∀ a, S.neg a = -a
  ofNat : ∀ n, S.ofNat n = (n : α)
  narrow : ∀ a, S.narrow a = a

theorem deviceRandom_eq {α : Type} (S : Sc α) (raws : List α) (k : Kind) (sh : Shape) (a b : α) :
    deviceRandom S raws k sh a b = if rejects S k a b then .error .error else .ok (fill S k a b raws sh) := by
  cases k <;> rfl

theorem add32_of_lt {a b : Nat} (h : a + b < W) : add32 a b = a + b := by
  unfold add32; exact Nat.mod_eq_of_lt h

theorem mul32_of_lt {a b : Nat} (h : a * b < W) : mul32 a b = a * b := by
  unfold mul32; exact Nat.mod_eq_of_lt h

/-- fan-in of a convolution kernel of shape (height, width, in, out) -/
def convFanIn (s : Shape) : Nat := s.get 0 * s.get 1 * s.get 2
def convFanOut (s : Shape) : Nat := s.get 0 * s.get 1 * s.get 3

theorem conv_fans {s : Shape} (hw : convFanIn s + convFanOut s < W) :
    add32 (mul32 (mul32 (s.get 0) (s.get 1)) (s.get 2)) (mul32 (mul32 (s.get 0) (s.get 1)) (s.get 3))
      = convFanIn s + convFanOut s := by
  unfold convFanIn convFanOut at *
  have m : ∀ a b c : Nat, mul32 (mul32 a b) c = (a * b * c) % W := by
    intro a b c; unfold mul32; rw [Nat.mul_mod, Nat.mod_mod, ← Nat.mul_mod]
  rw [m, m, Nat.mod_eq_of_lt (by omega), Nat.mod_eq_of_lt (by omega), add32_of_lt hw]

/-- `Device::identity` puts a one at the indices divisible by `n + 1`: in column-major order
these are the diagonal.  (`i + n·j ≡ i − j` modulo `n + 1`; the proof adds `j` to the index
and reads the residue of the sum in two ways, as `j` and as `i`.) -/
theorem diag_index {n i j : Nat} (hi : i < n) (hj : j < n) : (i + n * j) % (n + 1) = 0 ↔ i = j := by
  constructor
  · intro h0
    have e1 : (i + n * j + j) % (n + 1) = j := by
      rw [Nat.add_mod, h0, Nat.zero_add, Nat.mod_mod, Nat.mod_eq_of_lt (by omega)]
    have e2 : (i + n * j + j) % (n + 1) = i := by
      have : i + n * j + j = i + j * (n + 1) := by rw [Nat.mul_add, Nat.mul_one, Nat.mul_comm j n]; omega
      rw [this, Nat.add_mul_mod_self_right, Nat.mod_eq_of_lt (by omega)]
    omega
  · rintro rfl
    have : i + n * i = i * (n + 1) := by rw [Nat.mul_add, Nat.mul_one, Nat.mul_comm i n]; omega
    rw [this, Nat.mul_mod_left]

theorem diag_index_lt {n i j : Nat} (hi : i < n) (hj : j < n) : i + n * j < n * n := by
  have : n * (j + 1) ≤ n * n := Nat.mul_le_mul_left n (by omega)
  rw [Nat.mul_add, Nat.mul_one] at this
  omega

theorem deviceIdentity_spec {α : Type} (S : Sc α) (n : Nat) (t : Tensor α) (ht : deviceIdentity S n = .ok t) :
    0 < n ∧ Shape.new [n, n] 1 = .ok t.shape ∧ t.data.length = n * n ∧
    ∀ i j, i < n → j < n → t.data[i + n * j]? = some (if i = j then S.ofNat 1 else S.ofNat 0) := by
  unfold deviceIdentity at ht
  by_cases h0 : (n == 0) = true
  · simp [h0, Primitiv.throwError] at ht
  · simp only [h0, if_false, Bool.false_eq_true] at ht
    have hn : 0 < n := by simp at h0; omega
    cases hs : Shape.new [n, n] 1 with
    | error e => simp [hs, bind, Except.bind] at ht
    | ok sh =>
      simp only [hs, bind, Except.bind, pure, Except.pure] at ht
      cases ht
      refine ⟨hn, rfl, by simp, ?_⟩
      intro i j hi hj
      have hlt := diag_index_lt hi hj
      simp only [List.getElem?_map, List.getElem?_range hlt, Option.map_some, beq_iff_eq, diag_index hi hj]
end Primitiv.Rng
