import PrimitivModel.Spec.Optimizers
import PrimitivModel.Model.Resume
/-
What C12 and C15 share, none of which depends on what the update rules compute.
An operation of the optimizer rewrites some parameters of the store, and a
projection `π` of the parameters that does not see what it writes gives the same
list before and after (`map_mapReg`, `map_set_of_eq`, `map_updateCore`); the
invariants of C12 and C15 are stated over such lists, so they are carried along.
Core Lean only.
-/
namespace Primitiv.Opt
open Primitiv.Gen.Opt

section plumbing
variable {α : Type}

theorem len0 {β : Type} {l : List β} (h : l.length = 0) : l = [] := List.eq_nil_of_length_eq_zero h

/-- the six patterns are all there are: the length hypothesis rules out every other
list, which is why it is not looked at on the right -/
theorem forall_fields {β : Type} {P : Kind → List β → Prop}
    (sgd : ∀ a, P .SGD [a]) (momentum : ∀ a b, P .MomentumSGD [a, b]) (adagrad : ∀ a b, P .AdaGrad [a, b])
    (rmsprop : ∀ a b c, P .RMSProp [a, b, c]) (adadelta : ∀ a b, P .AdaDelta [a, b])
    (adam : ∀ a b c d, P .Adam [a, b, c, d]) : ∀ (k : Kind) (l : List β), l.length = arity k → P k l
  | .SGD, [a], _ => sgd a
  | .MomentumSGD, [a, b], _ => momentum a b
  | .AdaGrad, [a, b], _ => adagrad a b
  | .RMSProp, [a, b, c], _ => rmsprop a b c
  | .AdaDelta, [a, b], _ => adadelta a b
  | .Adam, [a, b, c, d], _ => adam a b c d

theorem set_self {β : Type} (l : List β) (i : Nat) (a : β) (h : l[i]? = some a) : l.set i a = l := by
  obtain ⟨hi, rfl⟩ := List.getElem?_eq_some_iff.mp h
  exact List.set_getElem_self hi

theorem map_set_of_eq {β : Type} (π : α → β) (l : List α) (i : Nat) (a b : α) (ha : l[i]? = some a)
    (h : π b = π a) : (l.set i b).map π = l.map π := by
  rw [List.map_set, h]
  exact set_self _ _ _ (by rw [List.getElem?_map, ha]; rfl)

theorem getElem?_mapReg (reg : List Nat) (f : Param α → Param α) (ps : List (Param α)) (i : Nat) :
    (mapReg reg f ps)[i]? = (ps[i]?).map (fun p => if i ∈ reg then f p else p) := by
  simp [mapReg, List.getElem?_mapIdx]

@[simp] theorem length_mapReg (reg : List Nat) (f : Param α → Param α) (ps : List (Param α)) :
    (mapReg reg f ps).length = ps.length := by
  simp [mapReg]

theorem map_mapReg {β : Type} (π : Param α → β) (reg : List Nat) (f : Param α → Param α) (ps : List (Param α))
    (h : ∀ p, π (f p) = π p) : (mapReg reg f ps).map π = ps.map π := by
  apply List.ext_getElem?
  intro i
  simp only [List.getElem?_map, getElem?_mapReg]
  cases ps[i]? with
  | none => rfl
  | some p => by_cases hi : i ∈ reg <;> simp [hi, h]

theorem mapReg_id (reg : List Nat) (ps : List (Param α)) : mapReg reg (fun p => p) ps = ps := by
  simpa using map_mapReg (fun p => p) reg (fun p => p) ps (fun _ => rfl)

theorem mapReg_mapReg (reg : List Nat) (f g : Param α → Param α) (ps : List (Param α)) :
    mapReg reg g (mapReg reg f ps) = mapReg reg (fun p => g (f p)) ps := by
  apply List.ext_getElem?
  intro i
  simp only [getElem?_mapReg]
  cases ps[i]? with
  | none => rfl
  | some p => by_cases h : i ∈ reg <;> simp [h]

theorem mapReg_ite (c : Prop) [Decidable c] (reg : List Nat) (f : Param α → Param α) (ps : List (Param α)) :
    (if c then mapReg reg f ps else ps) = mapReg reg (fun p => if c then f p else p) ps := by
  split
  · rfl
  · exact (mapReg_id reg ps).symm

/-- the validity flags of the store, as a list: the invariant of C12 speaks of the
parameters through this list only, so it holds after every operation that keeps
the list (`Inv1_congr`) -/
def valids (ps : List (Param α)) : List Bool := ps.map (fun p => p.valid)

end plumbing

section configure
variable {α : Type}

theorem statNames_eq_spec (k : Kind) : statNames k = Spec.statNames k := by
  cases k <;> rfl

theorem statsUsed_eq_spec (k : Kind) : statsUsed k = Spec.statNames k := by
  cases k <;> rfl

theorem arity_eq_spec (k : Kind) : arity k = Spec.arity k := by
  cases k <;> rfl

theorem hasStat_append (p : Param α) (n m : String) (z : List α) :
    Param.hasStat { p with stats := p.stats ++ [(n, z)] } m = (p.hasStat m || n == m) := by
  simp [Param.hasStat]

variable [OfNat α 0]

theorem configureOne_guarded (p : Param α) (hv : p.valid = true) (n : String) :
    configureOne true p n =
      (if p.hasStat n then p else { p with stats := p.stats ++ [(n, zeros p.value.length)] }, true) := by
  unfold configureOne
  simp only [hv, Bool.not_true, Bool.false_eq_true, if_false]
  split <;> rfl

/-- the names have to be distinct, since the right side tests them against the
parameter as it was at the start -/
theorem foldl_configureOne (l : List (String × Bool)) (hg : ∀ e ∈ l, e.2 = true) (hn : (l.map (·.1)).Nodup)
    (p : Param α) (hv : p.valid = true) :
    l.foldl (fun (acc : Param α × Bool) e => if acc.2 then configureOne e.2 acc.1 e.1 else acc) (p, true) =
      ({ p with stats := p.stats ++
        ((l.map (·.1)).filter (fun n => !p.hasStat n)).map (fun n => (n, zeros p.value.length)) }, true) := by
  induction l generalizing p with
  | nil => simp
  | cons e t ih =>
    obtain ⟨hne, hnt⟩ := List.nodup_cons.mp hn
    have ht := fun p hv => ih (fun e he => hg e (List.mem_cons_of_mem _ he)) hnt p hv
    rw [List.foldl_cons, if_pos rfl, hg e List.mem_cons_self, configureOne_guarded p hv, List.map_cons, List.filter_cons]
    by_cases h : p.hasStat e.1 = true
    · simp only [h, if_true, Bool.not_true, Bool.false_eq_true, if_false, ht p hv]
    · simp only [h, Bool.false_eq_true, if_false, Bool.not_false, if_true, List.map_cons,
        ht { p with stats := p.stats ++ [(e.1, zeros p.value.length)] } hv, List.append_assoc, List.singleton_append]
      congr 5
      apply List.filter_congr
      intro n hn'
      have : (e.1 == n) = false := beq_false_of_ne (fun he => hne (show e.1 ∈ _ from he ▸ hn'))
      rw [hasStat_append, this, Bool.or_false]

theorem configure_valid (k : Kind) (p : Param α) (hv : p.valid = true) :
    configure k p = ({ p with stats := p.stats ++
      ((Spec.statNames k).filter (fun n => !p.hasStat n)).map (fun n => (n, zeros p.value.length)) }, true) := by
  have ht : statGuarded k = true ∧ (statNames k).Nodup := by cases k <;> decide
  rw [← statNames_eq_spec]
  exact foldl_configureOne _ (List.all_eq_true.mp ht.1) ht.2 p hv

theorem foldl_configureOne_false (l : List (String × Bool)) (p : Param α) :
    l.foldl (fun (acc : Param α × Bool) e => if acc.2 then configureOne e.2 acc.1 e.1 else acc) (p, false) =
      (p, false) := by
  induction l with
  | nil => rfl
  | cons e t ih => exact ih

/-- `hk`: the exception comes from the first statistic to be created, and
`SGD::configure_parameter` creates none (it is empty and returns normally on an
invalid parameter) -/
theorem configure_invalid (k : Kind) (p : Param α) (hv : p.valid = false) (hk : statNames k ≠ []) :
    configure k p = (p, false) := by
  unfold configure
  cases hl : (table k).stats with
  | nil => exact absurd (by simp [statNames, hl]) hk
  | cons e t =>
    rw [List.foldl_cons, if_pos rfl]
    unfold configureOne
    simp only [hv, Bool.not_false, if_true]
    exact foldl_configureOne_false t p

theorem configureOne_keeps_valid (g : Bool) (p : Param α) (n : String) : (configureOne g p n).1.valid = p.valid := by
  unfold configureOne
  split
  · rfl
  · split <;> rfl

theorem configure_keeps_valid (k : Kind) (p : Param α) : (configure k p).1.valid = p.valid := by
  have key : ∀ (l : List (String × Bool)) (acc : Param α × Bool),
      (l.foldl (fun (acc : Param α × Bool) e => if acc.2 then configureOne e.2 acc.1 e.1 else acc) acc).1.valid
        = acc.1.valid := by
    intro l
    induction l with
    | nil => intro acc; rfl
    | cons e t ih =>
      intro acc
      rw [List.foldl_cons, ih]
      split
      · exact configureOne_keeps_valid _ _ _
      · rfl
  exact key _ (p, true)

end configure

section history
variable {α : Type}

theorem withBase_cases {P : State α → Prop} (s : State α) (r : Option (Base α))
    (h : ∀ b, P { s with o := { s.o with base := b } }) : P (withBase s r).1 := by
  cases r
  · exact h s.o.base
  · exact h _

theorem run_invariant (step : Op α → State α → State α × Bool) (I : State α → Prop) (h : List (Op α))
    (hI : ∀ op ∈ h, ∀ s, I s → I (step op s).1) (s : State α) (hs : I s) : I (run step h s).1 := by
  induction h generalizing s with
  | nil => exact hs
  | cons op t ih =>
    exact ih (fun o ho => hI o (List.mem_cons_of_mem _ ho)) _ (hI op List.mem_cons_self s hs)

theorem run_congr (step step' : Op α → State α → State α × Bool) (I : State α → Prop)
    (hI : ∀ op s, I s → I (step op s).1) (he : ∀ op s, I s → step op s = step' op s)
    (h : List (Op α)) (s : State α) (hs : I s) : run step h s = run step' h s := by
  induction h generalizing s with
  | nil => rfl
  | cons op t ih =>
    simp only [run]
    rw [← he op s hs, ih _ (hI op s hs)]

variable [Add α] [Sub α] [Mul α] [Div α] [OfNat α 0] [OfNat α 1] [LT α] [DecidableLT α]

theorem map_updateCore {β : Type} (π : Param α → β) (hg : ∀ p g, π { p with grad := g } = π p)
    (hu : ∀ e names p, π (Param.updateWith e names p) = π p) (F : Fns α) (s : State α) :
    (updateCore F s).ps.map π = s.ps.map π := by
  have ite {c : Prop} [Decidable c] {a b : List (Param α)} (ha : a.map π = s.ps.map π)
      (hb : b.map π = s.ps.map π) : (if c then a else b).map π = s.ps.map π := by
    split <;> assumption
  have h1 : (if s.o.base.l2_strength_ > 0 then mapReg s.o.reg (Param.decay s.o.base.l2_strength_) s.ps
      else s.ps).map π = s.ps.map π :=
    ite (map_mapReg π _ _ _ (fun p => hg p _)) rfl
  exact (map_mapReg π _ (Param.update F _ _ _ _) _ (fun p => hu _ _ p)).trans
    (ite (ite ((map_mapReg π _ _ _ (fun p => hg p _)).trans h1) h1) h1)

end history

end Primitiv.Opt
