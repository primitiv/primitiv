import PrimitivModel.Lemmas.MovePlans
/-
"`crash` is unreachable": `NoCrash` and its rules for `>>=` and `if`; the loops
run when their index checks hold; the shape rules of the kernels family never
take a branch in which the code as written has undefined behaviour, on
well-formed shapes.  (The only such branch in the Shape model is the division
by `s[dim] = 0` in `update_dim`.)
-/
namespace Primitiv.Move
open Primitiv Primitiv.MoveShape

def NoCrash {α} (r : R α) : Prop := r ≠ .error .crash

theorem noCrash_pure {α} (a : α) : NoCrash (pure a : R α) := fun h => by cases h
theorem noCrash_throw {α} : NoCrash (Primitiv.throwError : R α) := fun h => by cases h

theorem noCrash_bind {α β} {x : R α} {f : α → R β} (hx : NoCrash x) (hf : ∀ a, x = .ok a → NoCrash (f a)) :
    NoCrash (x >>= f) := by
  cases x with
  | error e =>
    cases e with
    | error => intro h; simp [bind, Except.bind] at h
    | crash => exact absurd rfl hx
  | ok a => exact hf a rfl

theorem noCrash_ite {α} {c : Prop} [Decidable c] {a b : R α} (ha : c → NoCrash a) (hb : ¬ c → NoCrash b) :
    NoCrash (if c then a else b) := by
  split
  · exact ha ‹_›
  · exact hb ‹_›

theorem checkDevice_noCrash {α} (x : Tensor α) : NoCrash (checkDevice x) := by
  unfold checkDevice; exact noCrash_ite (fun _ => noCrash_pure _) (fun _ => noCrash_throw)

theorem checkAll_noCrash {α} (xs : List (Tensor α)) : NoCrash (checkAll xs) := by
  induction xs with
  | nil => exact noCrash_pure _
  | cons x rest ih => exact noCrash_bind (checkDevice_noCrash x) (fun _ _ => ih)

theorem runSet_noCrash {α} {m : Moves} {src : Nat → α} {n : Nat} {ys : Shape} {raw : Nat → α}
    (hb : m.InBounds n ys.size) (hw : m.WritesAll ys.size) : NoCrash (runSet m src n ys raw) := by
  rw [runSet_ok hb hw]; exact noCrash_pure _

theorem runAdd_noCrash {α} [Add α] {m : Moves} {gy gx : Tensor α} (hb : m.InBounds gy.shape.size gx.shape.size) :
    NoCrash (runAdd m gy gx) := by
  rw [runAdd_ok hb]; exact noCrash_pure _

theorem runReduce_noCrash {α} {r : Reduce} {x : Tensor α} {ys : Shape} {f : (Nat → α) → (Nat → Nat) → Nat → α}
    (hb : r.InBounds x.shape.size) (hr : r.rep = ys.size) : NoCrash (runReduce r x ys f) := by
  rw [runReduce_ok hb hr]; exact noCrash_pure _

theorem argList_noCrash {α} {r : Reduce} {x : Tensor α} {f : (Nat → α) → (Nat → Nat) → Nat → α × Nat}
    (hb : r.InBounds x.shape.size) : NoCrash (argList r x f) := by
  unfold argList
  rw [Reduce.inBounds_iff.mpr hb]
  exact noCrash_pure _

namespace Rules

theorem new_noCrash (dims : List Nat) (b : Nat) : NoCrash (Shape.new dims b) := by
  unfold Shape.new
  refine noCrash_ite (fun _ => noCrash_throw) (fun _ => ?_)
  split
  · exact noCrash_throw
  · exact noCrash_ite (fun _ => noCrash_throw) (fun _ => noCrash_pure _)

theorem updateBatch_noCrash (s : Shape) (b : Nat) : NoCrash (s.updateBatch b) := by
  unfold Shape.updateBatch
  exact noCrash_ite (fun _ => noCrash_throw) (fun _ => noCrash_ite (fun _ => noCrash_throw) (fun _ => noCrash_pure _))

theorem updateDim_noCrash {s : Shape} (hs : WF s) (d m : Nat) : NoCrash (s.updateDim d m) := by
  unfold Shape.updateDim
  refine noCrash_ite (fun _ => noCrash_throw) (fun _ => noCrash_ite (fun _ => noCrash_throw) (fun _ => ?_))
  simp only
  refine noCrash_ite (fun h0 => ?_) (fun _ => noCrash_ite (fun _ => noCrash_throw) (fun _ => noCrash_pure _))
  have := hs.pos d; omega

theorem slice_noCrash {x : Shape} (hx : WF x) (dim lower upper : Nat) : NoCrash (ShapeOps.slice x dim lower upper) := by
  unfold ShapeOps.slice
  exact noCrash_ite (fun _ => noCrash_throw) (fun _ => noCrash_ite (fun _ => noCrash_pure _) (fun _ => updateDim_noCrash hx _ _))

theorem broadcast_noCrash {x : Shape} (hx : WF x) (dim size : Nat) : NoCrash (ShapeOps.broadcast x dim size) := by
  unfold ShapeOps.broadcast
  exact noCrash_ite (fun _ => noCrash_throw) (fun _ => updateDim_noCrash hx _ _)

theorem pick_noCrash {x : Shape} (hx : WF x) (ids : List Nat) (dim : Nat) : NoCrash (ShapeOps.pick x ids dim) := by
  unfold ShapeOps.pick
  simp only
  refine noCrash_ite (fun _ => noCrash_throw) (fun _ => noCrash_ite (fun _ => noCrash_throw) (fun _ => ?_))
  exact noCrash_bind (updateDim_noCrash hx _ _) (fun r _ => updateBatch_noCrash _ _)

theorem batchPick_noCrash (x : Shape) (ids : List Nat) : NoCrash (ShapeOps.batchPick x ids) := by
  unfold ShapeOps.batchPick
  simp only
  exact noCrash_ite (fun _ => noCrash_throw) (fun _ => noCrash_ite (fun _ => noCrash_throw) (fun _ => updateBatch_noCrash _ _))

theorem batchSlice_noCrash (x : Shape) (lower upper : Nat) : NoCrash (ShapeOps.batchSlice x lower upper) := by
  unfold ShapeOps.batchSlice
  exact noCrash_ite (fun _ => noCrash_throw) (fun _ => updateBatch_noCrash _ _)

theorem transpose_noCrash (x : Shape) : NoCrash (ShapeOps.transpose x) := by
  unfold ShapeOps.transpose
  exact noCrash_ite (fun _ => noCrash_throw) (fun _ => new_noCrash _ _)

theorem permuteLoop_noCrash (x : Shape) (n : Nat) (perm picked : List Nat) : NoCrash (ShapeOps.permuteLoop x n perm picked) := by
  induction perm generalizing picked with
  | nil => exact noCrash_pure _
  | cons p ps ih =>
    unfold ShapeOps.permuteLoop
    refine noCrash_ite (fun _ => noCrash_throw) (fun _ => noCrash_ite (fun _ => noCrash_throw) (fun _ => ?_))
    exact noCrash_bind (ih _) (fun _ _ => noCrash_pure _)

theorem permuteDims_noCrash (x : Shape) (perm : List Nat) : NoCrash (ShapeOps.permuteDims x perm) := by
  unfold ShapeOps.permuteDims
  refine noCrash_ite (fun _ => noCrash_throw) (fun _ => ?_)
  exact noCrash_bind (permuteLoop_noCrash _ _ _ _) (fun _ _ => new_noCrash _ _)

theorem hasSameLooDims_noCrash (a b : Shape) (dim : Nat) : NoCrash (a.hasSameLooDims b dim) := by
  unfold Shape.hasSameLooDims Shape.looLen
  refine noCrash_bind ?_ (fun _ _ => noCrash_bind ?_ (fun _ _ => noCrash_pure _))
  · split <;> exact noCrash_pure _
  · split <;> exact noCrash_pure _

theorem concatLoop_noCrash {dim : Nat} (l : List Shape) (s0 : Shape) (sum : Nat) :
    NoCrash (ShapeOps.concatLoop dim l (s0, sum)) := by
  induction l generalizing s0 sum with
  | nil => exact noCrash_pure _
  | cons s rest ih =>
    simp only [ShapeOps.concatLoop]
    refine noCrash_bind (hasSameLooDims_noCrash _ _ _) (fun loo _ => ?_)
    refine noCrash_ite (fun _ => noCrash_throw) (fun _ => ?_)
    split
    · exact noCrash_bind (updateBatch_noCrash _ _) (fun s0' _ => ih _ _)
    · exact noCrash_bind (noCrash_pure _) (fun s0' _ => ih _ _)

theorem concat_noCrash {xs : List Shape} (hxs : ∀ s ∈ xs, WF s) (dim : Nat) : NoCrash (ShapeOps.concat xs dim) := by
  cases xs with
  | nil => exact noCrash_throw
  | cons x0 rest =>
    simp only [ShapeOps.concat]
    refine noCrash_bind (concatLoop_noCrash _ _ _) (fun st hst => ?_)
    obtain ⟨sf, sumf⟩ := st
    simp only
    refine noCrash_ite (fun _ => noCrash_throw) (fun _ => ?_)
    exact updateDim_noCrash (Front.concatLoop_ok (hxs x0 List.mem_cons_self) hst).1 _ _

theorem batchConcatLoop_noCrash (s0 : Shape) (l : List Shape) (sum : Nat) : NoCrash (ShapeOps.batchConcatLoop s0 l sum) := by
  induction l generalizing sum with
  | nil => exact noCrash_pure _
  | cons s rest ih =>
    simp only [ShapeOps.batchConcatLoop]
    exact noCrash_ite (fun _ => noCrash_throw) (fun _ => ih _)

theorem batchConcat_noCrash (xs : List Shape) : NoCrash (ShapeOps.batchConcat xs) := by
  cases xs with
  | nil => exact noCrash_throw
  | cons x0 rest =>
    simp only [ShapeOps.batchConcat]
    refine noCrash_bind (batchConcatLoop_noCrash _ _ _) (fun sum _ => ?_)
    exact noCrash_ite (fun _ => noCrash_throw) (fun _ => updateBatch_noCrash _ _)

end Rules
end Primitiv.Move
