import Mathlib.Algebra.BigOperators.Group.Finset.Basic
import Mathlib.Algebra.BigOperators.Ring.Finset
import Mathlib.Tactic.Ring
import Mathlib.Tactic.Linarith
import PrimitivModel.Lemmas.GraphSweep
/-!
The reverse sweep of `Model/Graph.lean` is the transpose of forward mode (C01, T1).  The potential
`Phi k = Σ_{nodes n of operators < k} ⟪grad n or 0, t n⟫ + Σ_p ⟪pgrad p, δ p⟫` is carried along the loop: `Phi (k+1)`
before the iteration for operator `k` is `Phi k` after it (`adjoint_step`): the rule's contributions to the arguments add what
invalidating the operator's own gradients removes (the local adjoint law).  After the seed it is the sum over
the target's tangent, at the end the node part is empty.  Statement with the hypotheses spelled out:
Props/C01/Sweep.lean.
-/

namespace Primitiv.Graph
open Finset

variable {R : Type} [CommRing R]

/-- tensors as sequences of ring elements; only the first `size` entries matter -/
abbrev Vec (R : Type) := Nat → R

/-- the tensor operations that graph.cc uses, pointwise -/
def TVec (R : Type) [CommRing R] : TOps (Vec R) :=
  { zeros := fun _ _ => 0, ones := fun _ _ => 1, add := fun a b i => a i + b i }

def dot (n : Nat) (a b : Vec R) : R := ∑ i ∈ range n, a i * b i

theorem dot_add_left (n : Nat) (a b c : Vec R) : dot n (fun i => a i + b i) c = dot n a c + dot n b c := by
  simp only [dot, add_mul, sum_add_distrib]

theorem dot_zero_left (n : Nat) (c : Vec R) : dot n (fun _ => (0 : R)) c = 0 := by simp [dot]

theorem dot_one_left (n : Nat) (c : Vec R) : dot n (fun _ => (1 : R)) c = ∑ i ∈ range n, c i := by simp [dot]

theorem dot_sub_left (n : Nat) (a b c : Vec R) : dot n (fun i => a i - b i) c = dot n a c - dot n b c := by
  simp only [dot, sub_mul, sum_sub_distrib]

/-- the value of a gradient accumulator, an invalid one counting as 0 -/
def gval (g : Option (Vec R)) : Vec R := g.getD fun _ => 0

/-- `Σ_{i<k} Σ_{j<W} F ⟨i,j⟩`; `W` is any bound on the number of return values of an operator
(`exists_ret_bound`), there so that the sum over nodes is a finite double sum -/
def cellSum (k W : Nat) (F : Addr → R) : R := ∑ i ∈ range k, ∑ j ∈ range W, F ⟨i, j⟩

theorem cellSum_succ (k W : Nat) (F : Addr → R) :
    cellSum (k + 1) W F = cellSum k W F + ∑ j ∈ range W, F ⟨k, j⟩ :=
  sum_range_succ _ k

theorem cellSum_congr (k W : Nat) (F F' : Addr → R) (h : ∀ b : Addr, b.oid < k → b.vid < W → F b = F' b) :
    cellSum k W F = cellSum k W F' := by
  unfold cellSum
  refine sum_congr rfl fun i hi => sum_congr rfl fun j hj => ?_
  exact h ⟨i, j⟩ (mem_range.mp hi) (mem_range.mp hj)

theorem cellSum_single (k W : Nat) (a : Addr) (h1 : a.oid < k) (h2 : a.vid < W) (d : R) :
    cellSum k W (fun b => if b = a then d else 0) = d := by
  obtain ⟨ao, av⟩ := a
  have : ∀ i j : Nat, ((⟨i, j⟩ : Addr) = ⟨ao, av⟩) ↔ (j = av ∧ i = ao) := fun i j => by
    rw [Addr.mk.injEq, and_comm]
  simp only [cellSum, this, ite_and, sum_ite_eq', mem_range, show av < W from h2, show ao < k from h1, if_true]

theorem cellSum_add (k W : Nat) (F F' : Addr → R) :
    cellSum k W (fun b => F b + F' b) = cellSum k W F + cellSum k W F' := by
  simp only [cellSum, sum_add_distrib]

theorem cellSum_update (k W : Nat) (F F' : Addr → R) (a : Addr) (h1 : a.oid < k) (h2 : a.vid < W)
    (h : ∀ b, b ≠ a → F' b = F b) : cellSum k W F' = cellSum k W F + (F' a - F a) := by
  have : cellSum k W F' = cellSum k W (fun b => F b + if b = a then F' a - F a else 0) := by
    refine cellSum_congr k W _ _ fun b _ _ => ?_
    by_cases hb : b = a
    · subst hb; simp
    · simp [hb, h b hb]
  rw [this, cellSum_add, cellSum_single k W a h1 h2]

/-- `Σ ⟪contribution, tangent of the argument⟫`, a `none` contribution counting as 0 -/
def contribSum (size : Addr → Nat) (t : Addr → Vec R) : List (Addr × Option (Vec R)) → R
  | [] => 0
  | (_, none) :: rest => contribSum size t rest
  | (a, some c) :: rest => dot (size a) c (t a) + contribSum size t rest

/-- the potential of the node gradients of operators `< k` -/
def nodePot (size : Addr → Nat) (t : Addr → Vec R) (k W : Nat) (G : Addr → Option (Vec R)) : R :=
  cellSum k W fun b => dot (size b) (gval (G b)) (t b)

theorem nodePot_accGrads (size : Addr → Nat) (t : Addr → Vec R) (k W : Nat) :
    ∀ (l : List (Addr × Option (Vec R))) (G : Addr → Option (Vec R)),
      (∀ a c, (a, some c) ∈ l → a.oid < k ∧ a.vid < W ∧ (G a).isSome = true) →
      nodePot size t k W (accGrads (TVec R) G l) = nodePot size t k W G + contribSum size t l := by
  intro l
  induction l with
  | nil => intro G _; simp [accGrads, contribSum]
  | cons x rest ih =>
    intro G h
    obtain ⟨a, c⟩ := x
    cases c with
    | none =>
      simp only [accGrads, contribSum]
      exact ih G fun a' c' hm => h a' c' (List.mem_cons_of_mem _ hm)
    | some c =>
      simp only [accGrads, contribSum]
      obtain ⟨h1, h2, h3⟩ := h a c (by simp)
      rw [ih]
      · unfold nodePot
        rw [cellSum_update k W (fun b => dot (size b) (gval (G b)) (t b)) _ a h1 h2
          (fun b hb => by simp [hb])]
        simp only [if_true]
        cases hG : G a with
        | none => rw [hG] at h3; cases h3
        | some g =>
          simp only [Option.map_some, gval, Option.getD_some, TVec]
          rw [dot_add_left]
          ring
      · intro a' c' hm
        obtain ⟨h1', h2', h3'⟩ := h a' c' (List.mem_cons_of_mem _ hm)
        refine ⟨h1', h2', ?_⟩
        by_cases he : a' = a
        · subst he; simp [h3]
        · simp [he, h3']

def State.sizeAt {τ : Type} (s : State τ) (b : Addr) : Nat := shapeSize s.shape b

theorem sizeAt_node {τ : Type} {s : State τ} {b : Addr} {n : NodeInfo τ} (h : s.node? b = some n) :
    s.sizeAt b = n.size := shapeSize_node h

theorem sizeAt_of_shape {τ : Type} {s s' : State τ} (h : s'.shape = s.shape) : s'.sizeAt = s.sizeAt := by
  funext b; unfold State.sizeAt; rw [h]

/-- what the backward rule of a non-Parameter operator adds to its arguments -/
def kindContribs (kind : Kind (Vec R)) (xs ys gys : List (Vec R)) : List (Option (Vec R)) :=
  match kind with
  | .op sem => sem.bwd xs ys gys
  | _ => []

/-- `Σ_k ⟪gys_k, tangent of return value k⟫` of operator `i` whose return values have the given sizes -/
def retSum (t : Addr → Vec R) (i : Nat) (sizes : List Nat) (gys : List (Vec R)) : R :=
  ∑ j ∈ range sizes.length, dot (sizes.getD j 0) (gys.getD j fun _ => 0) (t ⟨i, j⟩)

/-- the potential: `Phi (k+1)` before the iteration for operator `k` equals `Phi k` after it -/
def Phi (size : Addr → Nat) (t : Addr → Vec R) (P : Nat) (psize : Nat → Nat) (δ : Nat → Vec R)
    (k W : Nat) (s : State (Vec R)) : R :=
  nodePot size t k W s.gradAt + ∑ p ∈ range P, dot (psize p) (s.params.grad p) (δ p)

theorem gval_zeroFill (s : State (Vec R)) (l : List Addr) (b : Addr) :
    gval ((zeroFill (TVec R) s l).gradAt b) = gval (s.gradAt b) := by
  rw [gradAt_zeroFill]
  by_cases hm : b ∈ l
  · simp only [hm, if_true, State.gradAt]
    cases s.node? b with
    | none => rfl
    | some n =>
      simp only [Option.map_some, Option.bind_some, gval, Option.getD_some]
      cases n.grad <;> rfl
  · simp [hm]

theorem nodePot_zeroFill (size : Addr → Nat) (t : Addr → Vec R) (k W : Nat) (s : State (Vec R)) (l : List Addr) :
    nodePot size t k W (zeroFill (TVec R) s l).gradAt = nodePot size t k W s.gradAt := by
  unfold nodePot
  exact cellSum_congr k W _ _ fun b _ _ => by rw [gval_zeroFill]

theorem nodePot_invalidateGrads (size : Addr → Nat) (t : Addr → Vec R) (k W : Nat) (s : State (Vec R)) :
    nodePot size t k W (invalidateGrads s k).gradAt = nodePot size t k W s.gradAt := by
  unfold nodePot
  refine cellSum_congr k W _ _ fun b hb _ => ?_
  rw [gradAt_invalidateGrads]
  have : b.oid ≠ k := Nat.ne_of_lt hb
  simp [this]

/-- the row of operator `k` in the potential is `Σ_j ⟪gys_j, t ⟨k,j⟩⟫` -/
theorem row_eq_retSum (t : Addr → Vec R) (W k : Nat) (s : State (Vec R)) (o : OpInfo (Vec R))
    (ho : s.ops[k]? = some o) (hW : o.rets.length ≤ W) :
    ∑ j ∈ range W, dot (s.sizeAt ⟨k, j⟩) (gval (s.gradAt ⟨k, j⟩)) (t ⟨k, j⟩)
      = retSum t k (o.rets.map (·.size)) (o.gys (TVec R)) := by
  unfold retSum
  rw [List.length_map]
  rw [← sum_subset (range_subset_range.mpr hW)]
  · refine sum_congr rfl fun j hj => ?_
    have hj' : j < o.rets.length := mem_range.mp hj
    have hn : s.node? ⟨k, j⟩ = some o.rets[j] := by
      rw [ops_getElem?_node? ho]; exact List.getElem?_eq_getElem hj'
    rw [sizeAt_node hn]
    simp only [State.gradAt, hn, Option.bind_some, OpInfo.gys]
    have h1 : (o.rets.map (·.size)).getD j 0 = o.rets[j].size := by
      simp [List.getD, hj']
    have h2 : (o.rets.map fun n => n.grad.getD ((TVec R).zeros n.size)).getD j (fun _ => 0)
        = gval o.rets[j].grad := by
      simp only [List.getD, List.getElem?_map, List.getElem?_eq_getElem hj', Option.map_some, Option.getD_some]
      rfl
    rw [h1, h2]
  · intro j _ hj
    have hn : s.node? ⟨k, j⟩ = none := by
      rw [ops_getElem?_node? ho]
      exact List.getElem?_eq_none (Nat.le_of_not_lt fun h => hj (mem_range.mpr h))
    simp [State.gradAt, hn, gval, dot]

/-- The hypotheses of `backward_adjoint` on the state before `backward`, the target `a`, the parameter
directions `δ` and the tangents `t` (`P` bounds the parameter ids, `psize` are the parameter sizes). -/
structure AdjointHyps (s : State (Vec R)) (a : Addr) (P : Nat) (psize : Nat → Nat)
    (δ : Nat → Vec R) (t : Addr → Vec R) : Prop where
  /-- arguments refer to smaller operator ids … -/
  argsBelow : ArgsBelow s
  /-- … and to existing nodes -/
  argsValid : ∀ (i : Nat) (o : OpInfo (Vec R)), s.ops[i]? = some o → ∀ b ∈ o.args, s.validAddr b = true
  /-- all node gradients are invalid -/
  gradsInvalid : AllGradsInvalid s
  /-- the target is a node of the graph -/
  target : s.validAddr a = true
  /-- every ancestor of the target is evaluated: its arguments have values, and (unless it is a
  Parameter operator, whose value is the live parameter) its return values are memoised -/
  evaluated : ∀ (i : Nat) (o : OpInfo (Vec R)), Anc s.argsOf i a.oid → s.ops[i]? = some o →
    (∀ b ∈ o.args, (s.valueOf? b).isSome = true) ∧
    ((∀ p, o.kind ≠ .param p) → ∀ n ∈ o.rets, n.value.isSome = true)
  /-- (i) a Parameter operator of `p` has one return value, of the size of `p`, with tangent `δ p` -/
  param : ∀ (i : Nat) (o : OpInfo (Vec R)) (p : Nat), Anc s.argsOf i a.oid → s.ops[i]? = some o →
    o.kind = .param p → p < P ∧ o.rets.map (·.size) = [psize p] ∧ t ⟨i, 0⟩ = δ p
  /-- (ii) the local adjoint law of every evaluated non-Parameter ancestor, at its stored values -/
  law : ∀ (i : Nat) (o : OpInfo (Vec R)), Anc s.argsOf i a.oid → s.ops[i]? = some o →
    (∀ p, o.kind ≠ .param p) → (∀ n ∈ o.rets, n.value.isSome = true) →
    ∀ xs, o.args.mapM s.valueOf? = some xs → ∀ gys : List (Vec R), gys.length = o.rets.length →
      contribSum s.sizeAt t (o.args.zip (kindContribs o.kind xs o.ys gys))
        = retSum t i (o.rets.map (·.size)) gys

theorem pgrad_sum_update (P p : Nat) (hp : p < P) (psize : Nat → Nat) (δ : Nat → Vec R) (G : Nat → Vec R)
    (g : Vec R) :
    ∑ q ∈ range P, dot (psize q) (if q = p then (TVec R).add (G p) g else G q) (δ q)
      = ∑ q ∈ range P, dot (psize q) (G q) (δ q) + dot (psize p) g (δ p) := by
  have : ∀ q ∈ range P, dot (psize q) (if q = p then (TVec R).add (G p) g else G q) (δ q)
      = dot (psize q) (G q) (δ q) + if q = p then dot (psize p) g (δ p) else 0 := by
    intro q _
    by_cases hq : q = p
    · subst hq
      simp only [if_true, TVec]
      rw [dot_add_left]
    · simp [hq]
  rw [sum_congr rfl this, sum_add_distrib, sum_ite_eq' (range P) p]
  simp [mem_range.mpr hp]

theorem retSum_single (t : Addr → Vec R) (k n : Nat) (g : Vec R) :
    retSum t k [n] [g] = dot n g (t ⟨k, 0⟩) := by
  simp only [retSum, List.length_singleton, sum_range_one, List.getD_cons_zero]

theorem adjoint_step (s : State (Vec R)) (a : Addr) (P : Nat) (psize : Nat → Nat)
    (δ : Nat → Vec R) (t : Addr → Vec R) (H : AdjointHyps s a P psize δ t) (W : Nat)
    (hW : ∀ (i : Nat) (o : OpInfo (Vec R)), s.ops[i]? = some o → o.rets.length ≤ W)
    (s' : State (Vec R)) (hf : SameFrame s s') (k : Nat) (hk : k < s'.ops.length)
    (hanc : OnlyAnc s.argsOf a.oid s') :
    ∃ s1, backwardStep (TVec R) s' k = (s1, .ok ()) ∧
      Phi s.sizeAt t P psize δ k W s1 = Phi s.sizeAt t P psize δ (k + 1) W s' := by
  obtain ⟨o', ho'⟩ : ∃ o', s'.ops[k]? = some o' := ⟨_, List.getElem?_eq_getElem hk⟩
  obtain ⟨o, ho, hkind, hargs, hrets⟩ := view_op_some hf.skel.symm ho'
  -- `o` is the record in `s`, `o'` the one in `s'`
  have hsize' : s'.sizeAt = s.sizeAt := sizeAt_of_shape (shape_of_skel hf.skel)
  have hlen : o'.rets.length = o.rets.length := by
    have := congrArg List.length hrets; simpa using this.symm
  have hrow := row_eq_retSum t W k s' o' ho' (by rw [hlen]; exact hW k o ho)
  rw [hsize'] at hrow
  have hPhi : Phi s.sizeAt t P psize δ (k + 1) W s'
      = nodePot s.sizeAt t k W s'.gradAt + retSum t k (o'.rets.map (·.size)) (o'.gys (TVec R))
        + ∑ p ∈ range P, dot (psize p) (s'.params.grad p) (δ p) := by
    unfold Phi nodePot
    rw [cellSum_succ, hrow]
  rw [backwardStep_eq, ho']
  simp only
  by_cases he : (!o'.enabled) = true
  · -- skipped: the row of `k` is zero
    rw [if_pos he]
    refine ⟨s', rfl, ?_⟩
    rw [hPhi]
    have hz : retSum t k (o'.rets.map (·.size)) (o'.gys (TVec R)) = 0 := by
      rw [← hrow]
      refine sum_eq_zero fun j _ => ?_
      simp [gradAt_of_not_enabled ho' he j, gval, dot]
    rw [hz]; unfold Phi; ring
  · rw [if_neg he]
    have hkanc : Anc s.argsOf k a.oid := enabled_anc ho' he hanc
    obtain ⟨hev1, hev2⟩ := H.evaluated k o hkanc ho
    have hval : s'.valueOf? = s.valueOf? := funext (skel_valueOf hf.skel hf.pvalue)
    obtain ⟨xs, hxs⟩ := mapM_some_of_forall fun b hb => Option.isSome_iff_exists.1 (hev1 b hb)
    rw [hval, ← hargs, hxs]
    simp only
    refine ⟨_, rfl, ?_⟩
    rw [hPhi]
    unfold Phi
    rw [nodePot_invalidateGrads]
    simp only [invalidateGrads_params]
    -- the state after both zero-fills
    generalize hs2 : zeroFill (TVec R) (zeroFill (TVec R) s' (retAddrs k o')) o.args = s2
    have hpot2 : nodePot s.sizeAt t k W s2.gradAt = nodePot s.sizeAt t k W s'.gradAt := by
      rw [← hs2, nodePot_zeroFill, nodePot_zeroFill]
    have hpar2 : s2.params = s'.params := by rw [← hs2]; simp
    -- the local adjoint law, read in `s'`
    have hl : (∀ p, o'.kind ≠ .param p) →
        contribSum s.sizeAt t (o'.args.zip (kindContribs o'.kind xs o'.ys (o'.gys (TVec R))))
          = retSum t k (o'.rets.map (·.size)) (o'.gys (TVec R)) := by
      intro hnp
      rw [← hkind] at hnp
      have := H.law k o hkanc ho hnp (hev2 hnp) xs hxs (o'.gys (TVec R)) (by simp [OpInfo.gys, hlen])
      rwa [hkind, (rets_of_skel hrets).2.2, hargs, ys_of_skel hrets] at this
    unfold stepCore
    cases hko : o'.kind with
    | param p =>
      simp only
      obtain ⟨hpP, hps, htp⟩ := H.param k o p hkanc ho (by rw [hkind]; exact hko)
      have hsz' : o'.rets.map (·.size) = [psize p] := by rw [← hps]; exact ((rets_of_skel hrets).2.2).symm
      obtain ⟨n', hn'⟩ := List.length_eq_one_iff.1
        (show o'.rets.length = 1 by simpa using congrArg List.length hsz')
      have hgys : o'.gys (TVec R) = [n'.grad.getD ((TVec R).zeros n'.size)] := by
        simp [OpInfo.gys, hn']
      rw [hgys, hsz', retSum_single, htp]
      have hg : ∀ pp : Params (Vec R), ({ s2 with params := pp } : State (Vec R)).gradAt = s2.gradAt :=
        fun _ => rfl
      simp only [hg]
      rw [hpot2, pgrad_sum_update P p hpP, hpar2]
      ring
    | rnd =>
      have hl := hl (by simp [hko])
      simp only [hko, kindContribs, List.zip_nil_right, contribSum] at hl
      simp only
      rw [← hl, hpot2, hpar2]
      ring
    | op sem =>
      have hl := hl (by simp [hko])
      simp only [hko, kindContribs] at hl
      simp only
      rw [gradAt_addContribs, nodePot_accGrads, hpot2, hl]
      · simp only [addContribs_params, hpar2]
      · intro b c hm
        have hb : b ∈ o.args := by rw [hargs]; exact (List.of_mem_zip hm).1
        obtain ⟨ob, hob, hvid⟩ := validAddr_iff.1 (H.argsValid k o ho b hb)
        refine ⟨H.argsBelow k o ho b hb, Nat.lt_of_lt_of_le hvid (hW _ ob hob), ?_⟩
        rw [← hs2]
        apply zeroFill_gradAt_isSome_of_mem _ _ _ _ hb
        rw [view_validAddr (zeroFill_sameFrame _ _ _).skel, view_validAddr hf.skel]
        exact H.argsValid k o ho b hb

theorem adjoint_sweep (s : State (Vec R)) (a : Addr) (P : Nat) (psize : Nat → Nat)
    (δ : Nat → Vec R) (t : Addr → Vec R) (H : AdjointHyps s a P psize δ t) (W : Nat)
    (hW : ∀ (i : Nat) (o : OpInfo (Vec R)), s.ops[i]? = some o → o.rets.length ≤ W)
    (k : Nat) (s' : State (Vec R)) (hf : SameFrame s s') (hk : k ≤ s'.ops.length)
    (hgb : GradsBelow k s') (hanc : OnlyAnc s.argsOf a.oid s') :
    ∃ s'', sweep (TVec R) k s' = (s'', .ok ()) ∧ SameFrame s s'' ∧ AllGradsInvalid s'' ∧
      Phi s.sizeAt t P psize δ 0 W s'' = Phi s.sizeAt t P psize δ k W s' := by
  have := sweep_inv_total (TVec R)
    (fun k' s1 => SameFrame s s1 ∧ k' ≤ s1.ops.length ∧ GradsBelow k' s1 ∧ OnlyAnc s.argsOf a.oid s1 ∧
      Phi s.sizeAt t P psize δ k' W s1 = Phi s.sizeAt t P psize δ k W s')
    (fun k' s1 ⟨hf1, hk1, hgb1, hanc1, hphi1⟩ => by
      obtain ⟨s2, hb, hphi⟩ := adjoint_step s a P psize δ t H W hW s1 hf1 k' (by omega) hanc1
      have hfs := backwardStep_sameFrame (TVec R) s1 k'
      rw [hb] at hfs
      refine ⟨s2, hb, hf1.trans hfs, ?_, ?_, ?_, ?_⟩
      · rw [view_length hfs.skel]; omega
      · exact backwardStep_gradsBelow (TVec R) k' s1 s2 hgb1 (view_argsBelow hf1.skel H.argsBelow) hb
      · have := onlyAnc_backwardStep (TVec R) a.oid k' (view_argsOf hf1.skel) hanc1
        rwa [hb] at this
      · rw [hphi, hphi1])
    k s' ⟨hf, hk, hgb, hanc, rfl⟩
  obtain ⟨s'', hs, hf'', _, hgb'', _, hphi''⟩ := this
  exact ⟨s'', hs, hf'', fun b => hgb'' b (Nat.zero_le _), hphi''⟩

theorem fwdPhase_of_hyps (s : State (Vec R)) (a : Addr) (P : Nat) (psize : Nat → Nat)
    (δ : Nat → Vec R) (t : Addr → Vec R) (H : AdjointHyps s a P psize δ t) :
    fwdPhase (TVec R) s a = (s, .ok ()) := by
  obtain ⟨n, hn⟩ := node?_of_valid H.target
  obtain ⟨o, ho, hvid⟩ := validAddr_iff.1 H.target
  have hmem : n ∈ o.rets := by
    unfold State.node? at hn; rw [ho] at hn
    exact List.mem_iff_getElem?.mpr ⟨_, hn⟩
  unfold fwdPhase
  rw [hn]
  simp only
  by_cases hv : n.value.isSome = true
  · rw [if_pos hv]
  · rw [if_neg hv]
    -- then the operator must be a Parameter
    have hpar : ∃ p, o.kind = .param p := by
      apply Classical.byContradiction
      intro hno
      have hnp : ∀ p, o.kind ≠ .param p := fun p hp => hno ⟨p, hp⟩
      exact hv ((H.evaluated a.oid o (Anc.refl _) ho).2 hnp n hmem)
    obtain ⟨p, hp⟩ := hpar
    obtain ⟨_, hsz, _⟩ := H.param a.oid o p (Anc.refl _) ho hp
    have hl1 : o.rets.length = 1 := by
      have := congrArg List.length hsz; simpa using this
    have hv0 : a.vid = 0 := by omega
    have : forward (TVec R) s a = (s, .ok (s.params.value p)) := by
      unfold forward
      rw [if_pos H.target, forwardRec_succ, ho]
      simp only [hp, hv0, if_true]
    rw [this]

/-- reverse sweep = transpose of forward mode, for the model of `Graph::backward` -/
theorem backward_adjoint_of_hyps (s : State (Vec R)) (a : Addr) (P : Nat) (psize : Nat → Nat)
    (δ : Nat → Vec R) (t : Addr → Vec R) (H : AdjointHyps s a P psize δ t) :
    ∃ s', backward (TVec R) s a = (s', .ok ()) ∧ SameFrame s s' ∧ AllGradsInvalid s' ∧
      ∑ p ∈ range P, dot (psize p) (fun i => s'.params.grad p i - s.params.grad p i) (δ p)
        = ∑ i ∈ range (s.sizeAt a), t a i := by
  obtain ⟨W, hW⟩ := exists_ret_bound s
  obtain ⟨n, hn⟩ := node?_of_valid H.target
  have hsz : s.sizeAt a = n.size := sizeAt_node hn
  have hs0 := seed_sameFrame (TVec R) s a
  have hlt : a.oid < s.ops.length := validAddr_lt H.target
  have hvidW : a.vid < W := by
    obtain ⟨o, ho, hvid⟩ := validAddr_iff.1 H.target
    exact Nat.lt_of_lt_of_le hvid (hW _ o ho)
  obtain ⟨s', hsw, hf', hg', hphi⟩ := adjoint_sweep s a P psize δ t H W hW (a.oid + 1) (seed (TVec R) s a) hs0
    (by rw [view_length hs0.skel]; omega) (gradsBelow_seed (TVec R) s a H.gradsInvalid)
    (onlyAnc_seed (TVec R) s a H.gradsInvalid)
  refine ⟨s', ?_, hf', hg', ?_⟩
  · rw [backward_eq]
    have hv : (!s.validAddr a) = false := by rw [H.target]; rfl
    rw [hv]
    simp only [Bool.false_eq_true, if_false]
    rw [fwdPhase_of_hyps s a P psize δ t H]
    exact hsw
  · -- evaluate the potential at both ends
    have hstart : Phi s.sizeAt t P psize δ (a.oid + 1) W (seed (TVec R) s a)
        = (∑ i ∈ range (s.sizeAt a), t a i) + ∑ p ∈ range P, dot (psize p) (s.params.grad p) (δ p) := by
      unfold Phi nodePot
      rw [seed_params]
      refine congrArg (· + _) ?_
      have : cellSum (a.oid + 1) W (fun b => dot (s.sizeAt b) (gval ((seed (TVec R) s a).gradAt b)) (t b))
          = cellSum (a.oid + 1) W (fun b => if b = a then ∑ i ∈ range (s.sizeAt a), t a i else 0) := by
        refine cellSum_congr _ _ _ _ fun b _ _ => ?_
        rw [gradAt_seed]
        by_cases hb : b = a
        · subst hb
          simp only [if_true, hn, Option.map_some, gval, Option.getD_some, TVec]
          rw [dot_one_left]
        · simp only [hb, if_false, H.gradsInvalid b, gval, Option.getD_none]
          exact dot_zero_left _ _
      rw [this, cellSum_single _ _ a (Nat.lt_succ_self _) hvidW]
    have hend : Phi s.sizeAt t P psize δ 0 W s' = ∑ p ∈ range P, dot (psize p) (s'.params.grad p) (δ p) := by
      simp only [Phi, nodePot, cellSum, range_zero, sum_empty, zero_add]
    rw [hstart, hend] at hphi
    have : ∑ p ∈ range P, dot (psize p) (fun i => s'.params.grad p i - s.params.grad p i) (δ p)
        = ∑ p ∈ range P, dot (psize p) (s'.params.grad p) (δ p)
          - ∑ p ∈ range P, dot (psize p) (s.params.grad p) (δ p) := by
      rw [← sum_sub_distrib]
      exact sum_congr rfl fun p _ => dot_sub_left _ _ _ _
    rw [this, hphi]
    ring

end Primitiv.Graph
