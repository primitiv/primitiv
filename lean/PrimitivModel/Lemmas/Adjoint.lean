import PrimitivModel.Lemmas.MoveGeneric
import Mathlib.Algebra.BigOperators.Group.Finset.Basic
import Mathlib.Algebra.BigOperators.Ring.Finset
import Mathlib.Algebra.BigOperators.Group.Finset.Sigma
import Mathlib.Tactic.Ring
/-
What the accumulation loops compute, as sums.  `scatterAdd_apply`: a backward
kernel `gx[d t] += gy[s t]` leaves `gx` plus a sum over its steps; so it adds
what it leaves in a zero accumulator, and a loop nest that is one nest per
sample of `gy` leaves the sum over the samples (`Folds.scatterAdd`).
"Backward is the transpose of forward": a forward kernel is `dest[d t] = src[s t]`;
if the backward loop visits the same (output, input) index pairs, `s' t = d t`,
`d' t = s t`, then `Σ_j (bw gy 0)_j * x_j = Σ_i gy_i * (fw x)_i` over any
commutative semiring (`adjoint_of_same_idx`).  Where the backward loop is not
the forward one read backwards (flip, transpose) both are evaluated element by
element (`writesOnce_apply`) and the two sums matched by a bijection of the
index range (`sum_reindex`).  The same for the selection loop of max_bw / min_bw
(`selectAdd`).
-/
namespace Primitiv.Move
open Finset

theorem scatterAdd_apply {R} [AddCommMonoid R] (d s : Nat → Nat) (gy gx : Nat → R) (n j : Nat) :
    scatterAdd d s gy n gx j = gx j + ∑ t ∈ range n, if d t = j then gy (s t) else 0 := by
  induction n with
  | zero => simp [scatterAdd]
  | succ n ih =>
    simp only [scatterAdd, sum_range_succ]
    by_cases h : j = d n
    · subst h; simp only [if_true]; rw [ih]; rw [add_assoc]
    · have h' : ¬ d n = j := fun e => h e.symm
      simp only [h, h', if_false, add_zero]; exact ih

theorem scatterAdd_zero_split {R} [AddCommMonoid R] (d s : Nat → Nat) (gy gx : Nat → R) (n j : Nat) :
    scatterAdd d s gy n gx j = gx j + scatterAdd d s gy n (fun _ => 0) j := by
  rw [scatterAdd_apply, scatterAdd_apply, zero_add]

theorem sum_range_mul {R} [AddCommMonoid R] (B K : Nat) (F : Nat → R) :
    ∑ t ∈ range (B * K), F t = ∑ b ∈ range B, ∑ t0 ∈ range K, F (t0 + K * b) := by
  induction B with
  | zero => simp
  | succ B ih =>
    rw [sum_range_succ, ← ih, Nat.add_mul, Nat.one_mul, sum_range_add]
    congr 1
    apply sum_congr rfl
    intro t _
    congr 1; ring

theorem Folds.scatterAdd {R} [AddCommMonoid R] {m : Moves} {m1 : Nat → Moves} {B K Vy : Nat} (hf : Folds m m1 B K Vy)
    (gy gx : Nat → R) (j : Nat) :
    scatterAdd m.didx m.sidx gy m.count gx j = gx j +
      ∑ b ∈ range B, scatterAdd (m1 b).didx (m1 b).sidx (fun i => gy (i + Vy * b)) (m1 b).count (fun _ => 0) j := by
  rw [scatterAdd_apply, hf.count, sum_range_mul]
  congr 1
  apply sum_congr rfl
  intro b hb
  have hb := mem_range.mp hb
  rw [scatterAdd_apply, zero_add, hf.count1 b hb]
  apply sum_congr rfl
  intro t0 ht0
  rw [hf.didx t0 b (mem_range.mp ht0) hb, hf.sidx t0 b (mem_range.mp ht0) hb]

theorem scatter_gather_adjoint {R} [CommSemiring R] (d s : Nat → Nat) (gy x : Nat → R) (n m : Nat)
    (hidx : ∀ t, t < n → d t < m) :
    ∑ j ∈ range m, scatterAdd d s gy n (fun _ => 0) j * x j = ∑ t ∈ range n, gy (s t) * x (d t) := by
  simp only [scatterAdd_apply, zero_add, sum_mul]
  rw [sum_comm]
  apply sum_congr rfl
  intro t ht
  rw [sum_eq_single (d t)]
  · simp
  · intro j _ hj
    have : ¬ d t = j := fun e => hj e.symm
    simp [this]
  · intro h; exact absurd (mem_range.mpr (hidx t (mem_range.mp ht))) h

theorem gather_pairing {R} [CommSemiring R] (m : Moves) (gy x raw : Nat → R) (size : Nat)
    (hb : ∀ t, t < m.count → m.didx t < size) (hall : m.WritesAll size) (hon : m.WritesOnce) :
    ∑ i ∈ range size, gy i * scatterSet m.didx m.sidx x m.count raw i =
      ∑ t ∈ range m.count, gy (m.didx t) * x (m.sidx t) := by
  symm
  apply sum_bij (fun t _ => m.didx t)
  · intro t ht; exact mem_range.mpr (hb t (mem_range.mp ht))
  · intro t ht t' ht' e; exact hon t t' (mem_range.mp ht) (mem_range.mp ht') e
  · intro i hi
    obtain ⟨t, ht, e⟩ := hall i (mem_range.mp hi)
    exact ⟨t, mem_range.mpr ht, e⟩
  · intro t ht
    rw [scatterSet_of_once hon x raw (mem_range.mp ht)]

theorem adjoint_of_same_idx {R} [CommSemiring R] (fw bw : Moves) (gy x raw : Nat → R) (xsize ysize : Nat)
    (hn : bw.count = fw.count)
    (hs : ∀ t, t < fw.count → bw.sidx t = fw.didx t) (hd : ∀ t, t < fw.count → bw.didx t = fw.sidx t)
    (hfb : fw.InBounds xsize ysize) (hall : fw.WritesAll ysize) (hon : fw.WritesOnce) :
    ∑ j ∈ range xsize, scatterAdd bw.didx bw.sidx gy bw.count (fun _ => 0) j * x j =
      ∑ i ∈ range ysize, gy i * scatterSet fw.didx fw.sidx x fw.count raw i := by
  rw [scatter_gather_adjoint _ _ _ _ _ _ (fun t ht => by rw [hn] at ht; rw [hd t ht]; exact (hfb t ht).1),
    gather_pairing fw gy x raw ysize (fun t ht => (hfb t ht).2) hall hon, hn]
  apply sum_congr rfl
  intro t ht
  rw [hs t (mem_range.mp ht), hd t (mem_range.mp ht)]

theorem adjoint_swap {R} [CommSemiring R] (m : Moves) (gy x raw : Nat → R) {xsize ysize : Nat}
    (hfb : m.InBounds xsize ysize) (hall : m.WritesAll ysize) (hon : m.WritesOnce) :
    ∑ j ∈ range xsize, scatterAdd m.swap.didx m.swap.sidx gy m.swap.count (fun _ => 0) j * x j =
      ∑ i ∈ range ysize, gy i * scatterSet m.didx m.sidx x m.count raw i :=
  adjoint_of_same_idx m m.swap gy x raw xsize ysize rfl (fun _ _ => rfl) (fun _ _ => rfl) hfb hall hon

theorem scatterAdd_of_once {R} [AddCommMonoid R] {m : Moves} (hon : m.WritesOnce) (gy : Nat → R) {t : Nat}
    (ht : t < m.count) : scatterAdd m.didx m.sidx gy m.count (fun _ => 0) (m.didx t) = gy (m.sidx t) := by
  rw [scatterAdd_apply, zero_add, sum_eq_single t]
  · simp
  · intro t' ht' hne
    have : ¬ m.didx t' = m.didx t := fun e => hne (hon t' t (mem_range.mp ht') ht e)
    simp [this]
  · intro h; exact absurd (mem_range.mpr ht) h

theorem writesOnce_apply {R} [AddCommMonoid R] {m : Moves} {N : Nat} {φ : Nat → Nat} (hon : m.WritesOnce)
    (hstep : ∀ i, i < N → ∃ t, t < m.count ∧ m.didx t = i ∧ m.sidx t = φ i) (x raw gy : Nat → R) {i : Nat} (hi : i < N) :
    scatterSet m.didx m.sidx x m.count raw i = x (φ i) ∧
    scatterAdd m.didx m.sidx gy m.count (fun _ => 0) i = gy (φ i) := by
  obtain ⟨t, ht, rfl, e⟩ := hstep i hi
  rw [← e]
  exact ⟨scatterSet_of_once hon x raw ht, scatterAdd_of_once hon gy ht⟩

theorem sum_reindex {R} [AddCommMonoid R] (n : Nat) (φ ψ : Nat → Nat) (f g : Nat → R)
    (hφ : ∀ i, i < n → φ i < n) (hψ : ∀ i, i < n → ψ i < n) (hinv : ∀ i, i < n → ψ (φ i) = i)
    (hinv' : ∀ i, i < n → φ (ψ i) = i) (hfg : ∀ i, i < n → f i = g (φ i)) :
    ∑ i ∈ range n, f i = ∑ i ∈ range n, g i := by
  apply sum_nbij' φ ψ
  · intro i hi; exact mem_range.mpr (hφ i (mem_range.mp hi))
  · intro i hi; exact mem_range.mpr (hψ i (mem_range.mp hi))
  · intro i hi; exact hinv i (mem_range.mp hi)
  · intro i hi; exact hinv' i (mem_range.mp hi)
  · intro i hi; exact hfg i (mem_range.mp hi)

theorem selectAdd_apply {R} [AddCommMonoid R] [DecidableEq R] (r : Reduce) (x y gy gx : Nat → R) (n o : Nat) :
    selectAdd r x y gy n gx o = gx o + ∑ i ∈ range n,
      match firstEq x (r.off i) (y i) r.n with
      | some j => if o = r.off i j then gy i else 0
      | none => 0 := by
  induction n with
  | zero => simp [selectAdd]
  | succ n ih =>
    rw [sum_range_succ, selectAdd]
    cases h : firstEq x (r.off n) (y n) r.n with
    | none => simp only [ih, add_zero]
    | some j =>
      simp only
      by_cases e : o = r.off n j
      · simp only [e, if_true]; rw [← e, ih, add_assoc]
      · simp only [e, if_false, add_zero]; exact ih

theorem selectAdd_zero_split {R} [AddCommMonoid R] [DecidableEq R] (r : Reduce) (x y gy gx : Nat → R) (n o : Nat) :
    selectAdd r x y gy n gx o = gx o + selectAdd r x y gy n (fun _ => 0) o := by
  rw [selectAdd_apply, selectAdd_apply, zero_add]

theorem select_adjoint {R} [CommSemiring R] [DecidableEq R] (r : Reduce) (x y gy dx : Nat → R) (m : Nat)
    (hb : ∀ i j, i < r.rep → j < r.n → r.off i j < m) :
    ∑ o ∈ range m, selectAdd r x y gy r.rep (fun _ => 0) o * dx o =
      ∑ i ∈ range r.rep, match firstEq x (r.off i) (y i) r.n with
        | some j => gy i * dx (r.off i j)
        | none => 0 := by
  simp only [selectAdd_apply, zero_add, sum_mul]
  rw [sum_comm]
  apply sum_congr rfl
  intro i hi
  cases h : firstEq x (r.off i) (y i) r.n with
  | none => simp
  | some j =>
    simp only
    have hj : j < r.n := by
      unfold firstEq at h
      have := List.mem_of_find?_eq_some h
      simpa using this
    rw [sum_eq_single (r.off i j)]
    · simp
    · intro o _ ho; simp [ho]
    · intro hn; exact absurd (mem_range.mpr (hb i j (mem_range.mp hi) hj)) hn

theorem firstEq_eq_some {R} [DecidableEq R] (x : Nat → R) (off : Nat → Nat) (v : R) (n k : Nat) (hk : k < n)
    (he : x (off k) = v) (hfirst : ∀ j, j < k → x (off j) ≠ v) : firstEq x off v n = some k := by
  unfold firstEq
  rw [List.find?_range_eq_some]
  exact ⟨by simpa using he, by simpa using hk, fun j hj => by simpa using hfirst j hj⟩

end Primitiv.Move
