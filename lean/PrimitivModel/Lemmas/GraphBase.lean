import PrimitivModel.Model.Graph
/-!
What the lemmas about `forward` (Lemmas/GraphExt.lean, Lemmas/GraphForward.lean) and about the reverse sweep
(Lemmas/GraphSweep.lean) share.  Core Lean only.  Nothing here changes a definition of the model;
`backwardStep_eq`, `backward_eq` and `forwardRec_succ` restate the model's definitions in a form that is
convenient to reason about and are proved equal to them.

`s.skel`, `s.gskel` and `s.shape` are views `State.view π` of the operator list through a projection `π` of the
nodes, and what two states with equal views share is proved once, for any `π`.  The sweep keeps `skel`
(`SameFrame`, equivalently `SameVals`), `forward` keeps `gskel` (`FwdFrame`); the loop of the sweep is reasoned
about through `sweep_ind` only.
-/
namespace Primitiv.Graph
variable {τ : Type}

theorem list_set_eq_self {α} {l : List α} {i : Nat} {x : α} (h : l[i]? = some x) : l.set i x = l := by
  obtain ⟨hl, rfl⟩ := List.getElem?_eq_some_iff.mp h
  exact List.set_getElem_self hl

/-- a statement about every entry of a list that is written out is one statement for each entry -/
theorem forall_getElem?_cons {α : Type} {P : Nat → α → Prop} {x : α} {l : List α} (h0 : P 0 x)
    (hs : ∀ k o, l[k]? = some o → P (k + 1) o) : ∀ k o, (x :: l)[k]? = some o → P k o
  | 0, _, h => Option.some.inj h ▸ h0
  | k + 1, o, h => hs k o h

theorem forall_getElem?_nil {α : Type} {P : Nat → α → Prop} : ∀ k o, ([] : List α)[k]? = some o → P k o :=
  fun _ _ h => nomatch h

theorem mapM_congr {α β} {f g : α → Option β} {l : List α} (h : ∀ a ∈ l, f a = g a) :
    l.mapM f = l.mapM g := by
  induction l with
  | nil => rfl
  | cons a r ih =>
    simp only [List.mapM_cons]
    rw [h a List.mem_cons_self, ih (fun a ha => h a (List.mem_cons_of_mem _ ha))]

theorem mapM_cons_eq_some {α β} {f : α → Option β} {a : α} {rest : List α} {ys : List β}
    (h : (a :: rest).mapM f = some ys) : ∃ b bs, f a = some b ∧ rest.mapM f = some bs ∧ ys = b :: bs := by
  simp only [List.mapM_cons, Option.bind_eq_bind] at h
  cases h1 : f a with
  | none => simp [h1] at h
  | some b =>
    cases h2 : rest.mapM f with
    | none => simp [h1, h2] at h
    | some bs => exact ⟨b, bs, rfl, rfl, by simpa [h1, h2] using h.symm⟩

theorem mapM_mono {α β} {f g : α → Option β} {l : List α} {ys : List β}
    (hfg : ∀ a ∈ l, ∀ b, f a = some b → g a = some b) (h : l.mapM f = some ys) : l.mapM g = some ys := by
  induction l generalizing ys with
  | nil => simpa using h
  | cons a rest ih =>
    obtain ⟨b, bs, h1, h2, rfl⟩ := mapM_cons_eq_some h
    simp [List.mapM_cons, hfg a List.mem_cons_self b h1, ih (fun a ha => hfg a (List.mem_cons_of_mem _ ha)) h2]

theorem mapM_some_mem {α β} {f : α → Option β} {l : List α} {ys : List β} (h : l.mapM f = some ys) :
    ∀ a ∈ l, ∃ b, f a = some b := by
  induction l generalizing ys with
  | nil => simp
  | cons a rest ih =>
    obtain ⟨b, bs, h1, h2, -⟩ := mapM_cons_eq_some h
    intro a' ha'
    rcases List.mem_cons.1 ha' with rfl | ha'
    · exact ⟨b, h1⟩
    · exact ih h2 a' ha'

theorem mapM_eq_map_getD {α β} (f : α → Option β) (d : β) :
    ∀ (l : List α) (xs : List β), l.mapM f = some xs → xs = l.map fun a => (f a).getD d := by
  intro l
  induction l with
  | nil => intro xs h; simpa using h.symm
  | cons a rest ih =>
    intro xs h
    obtain ⟨b, bs, h1, h2, rfl⟩ := mapM_cons_eq_some h
    simp [h1, ← ih bs h2]

theorem mapM_some_of_forall {α β} {f : α → Option β} {l : List α} (h : ∀ a ∈ l, ∃ b, f a = some b) :
    ∃ bs, l.mapM f = some bs := by
  induction l with
  | nil => exact ⟨[], rfl⟩
  | cons a rest ih =>
    obtain ⟨b, hb⟩ := h a List.mem_cons_self
    obtain ⟨bs, hbs⟩ := ih (fun a' ha' => h a' (List.mem_cons_of_mem _ ha'))
    exact ⟨b :: bs, by simp [List.mapM_cons, hb, hbs]⟩

/-- gradient stored at an address (`none`: invalid gradient or no such node) -/
def State.gradAt (s : State τ) (a : Addr) : Option τ := (s.node? a).bind (·.grad)

/-- the part of a node that the sweep never changes -/
def NodeInfo.skel (n : NodeInfo τ) : Nat × Option τ := (n.size, n.value)
def OpInfo.skel (o : OpInfo τ) : Kind τ × List Addr × List (Nat × Option τ) :=
  (o.kind, o.args, o.rets.map NodeInfo.skel)
def State.skel (s : State τ) : List (Kind τ × List Addr × List (Nat × Option τ)) :=
  s.ops.map OpInfo.skel

/-- the part of a node that `forward` never changes -/
def NodeInfo.gskel (n : NodeInfo τ) : Nat × Option τ := (n.size, n.grad)
def OpInfo.gskel (o : OpInfo τ) : Kind τ × List Addr × List (Nat × Option τ) :=
  (o.kind, o.args, o.rets.map NodeInfo.gskel)
def State.gskel (s : State τ) : List (Kind τ × List Addr × List (Nat × Option τ)) :=
  s.ops.map OpInfo.gskel

/-- what neither `forward` nor `backward` changes: kinds, arguments and sizes -/
abbrev Shape (τ : Type) := List (Kind τ × List Addr × List Nat)

def State.shape (s : State τ) : Shape τ := s.ops.map fun o => (o.kind, o.args, o.rets.map (·.size))

def State.argsOf (s : State τ) (i : Nat) : List Addr :=
  match s.ops[i]? with
  | some o => o.args
  | none => []

def State.kindAt (s : State τ) (i : Nat) : Option (Kind τ) := (s.ops[i]?).map (·.kind)

/-- arguments refer to smaller operator ids (the invariant that `add_operator` maintains) -/
def ArgsBelow (s : State τ) : Prop :=
  ∀ (i : Nat) (o : OpInfo τ), s.ops[i]? = some o → ∀ a ∈ o.args, a.oid < i

theorem Addr.eq_iff (a b : Addr) : a = b ↔ a.oid = b.oid ∧ a.vid = b.vid := by
  cases a; cases b; simp

def Kind.isParam : Kind τ → Bool
  | .param _ => true
  | _ => false

def Kind.isRnd : Kind τ → Bool
  | .rnd => true
  | _ => false

/-- whether the fault schedule applies to the forward of an operator of this kind -/
def Kind.faulty : Kind τ → Bool
  | .op sem => sem.faulty
  | .rnd => true
  | .param _ => false

def State.isRnd (s : State τ) (k : Nat) : Bool :=
  match s.ops[k]? with
  | some o => o.kind.isRnd
  | none => false

def State.isParam (s : State τ) (k : Nat) : Bool :=
  match s.ops[k]? with
  | some o => o.kind.isParam
  | none => false

def State.argList (s : State τ) (k : Nat) : List Addr :=
  match s.ops[k]? with
  | some o => o.args
  | none => []

theorem State.argsOf_eq_argList (s : State τ) : s.argsOf = s.argList := rfl

theorem validAddr_iff {s : State τ} {a : Addr} :
    s.validAddr a = true ↔ ∃ o, s.ops[a.oid]? = some o ∧ a.vid < o.rets.length := by
  unfold State.validAddr
  cases s.ops[a.oid]? <;> simp

theorem validAddr_eq_node {s : State τ} (a : Addr) : s.validAddr a = (s.node? a).isSome := by
  unfold State.validAddr State.node?
  cases s.ops[a.oid]? with
  | none => rfl
  | some o => rw [Bool.eq_iff_iff]; simp

theorem node?_of_valid {s : State τ} {a : Addr} (h : s.validAddr a = true) : ∃ n, s.node? a = some n :=
  Option.isSome_iff_exists.mp (validAddr_eq_node a ▸ h)

theorem validAddr_lt {s : State τ} {a : Addr} (h : s.validAddr a = true) : a.oid < s.ops.length := by
  obtain ⟨o, ho, _⟩ := validAddr_iff.1 h
  exact (List.getElem?_eq_some_iff.1 ho).1

theorem exists_ret_bound (s : State τ) :
    ∃ W, ∀ (i : Nat) (o : OpInfo τ), s.ops[i]? = some o → o.rets.length ≤ W :=
  ⟨(s.ops.map (·.rets.length)).max?.getD 0, fun _ o ho =>
    List.le_max?_getD_of_mem (List.mem_map_of_mem (List.mem_of_getElem? ho))⟩

/-- `Anc args i j`: operator `i` is operator `j` or produces a (transitive) argument of it -/
inductive Anc (args : Nat → List Addr) : Nat → Nat → Prop
  | refl (j : Nat) : Anc args j j
  | step {i j : Nat} {a : Addr} : a ∈ args j → Anc args i a.oid → Anc args i j

theorem Anc.arg {args : Nat → List Addr} {k t : Nat} {a : Addr} (h : Anc args k t) (ha : a ∈ args k) :
    Anc args a.oid t := by
  induction h with
  | refl => exact Anc.step ha (Anc.refl _)
  | step hb _ ih => exact Anc.step hb ih

/-- `AncF f j k`: `j` is `k` or reachable from `k` through argument edges -/
inductive AncF (f : Nat → List Addr) : Nat → Nat → Prop
  | refl (k : Nat) : AncF f k k
  | step {j k : Nat} {b : Addr} : b ∈ f k → AncF f j b.oid → AncF f j k

/-- `AncOf s j k`: operator `j` is `k` itself or an ancestor of `k` in the graph of `s` -/
def AncOf (s : State τ) : Nat → Nat → Prop := AncF s.argList

theorem Anc.iff_ancF (f : Nat → List Addr) (j k : Nat) : Anc f j k ↔ AncF f j k := by
  constructor
  · intro h
    induction h with
    | refl => exact AncF.refl _
    | step hb _ ih => exact AncF.step hb ih
  · intro h
    induction h with
    | refl => exact Anc.refl _
    | step hb _ ih => exact Anc.step hb ih

theorem Anc.iff_ancOf (s : State τ) (j k : Nat) : Anc s.argsOf j k ↔ AncOf s j k := Anc.iff_ancF _ j k

theorem AncOf.refl (s : State τ) (k : Nat) : AncOf s k k := AncF.refl k

theorem AncOf.of_arg {s : State τ} {k j : Nat} {o : OpInfo τ} {b : Addr} (ho : s.ops[k]? = some o)
    (hb : b ∈ o.args) (h : AncOf s j b.oid) : AncOf s j k := by
  refine AncF.step (b := b) ?_ h
  simp [State.argList, ho, hb]

theorem AncOf.cases {s : State τ} {k j : Nat} (h : AncOf s j k) :
    j = k ∨ ∃ o b, s.ops[k]? = some o ∧ b ∈ o.args ∧ AncOf s j b.oid := by
  cases h with
  | refl => exact .inl rfl
  | step hb h =>
    rename_i b
    right
    unfold State.argList at hb
    cases ho : s.ops[k]? with
    | none => simp [ho] at hb
    | some o => simp only [ho] at hb; exact ⟨o, b, rfl, hb, h⟩

theorem updRet_getElem? (o : OpInfo τ) (vid : Nat) (f : NodeInfo τ → NodeInfo τ) (j : Nat) :
    (updRet o vid f).rets[j]? = if j = vid then (o.rets[j]?).map f else o.rets[j]? := by
  unfold updRet
  cases h : o.rets[vid]? with
  | none => by_cases hj : j = vid <;> simp_all
  | some n =>
    by_cases hj : j = vid
    · subst hj
      obtain ⟨hl, he⟩ := List.getElem?_eq_some_iff.mp h
      simp [hl, he]
    · simp [hj, List.getElem?_set_ne (Ne.symm hj)]

theorem updRet_kind (o : OpInfo τ) (vid : Nat) (f) : (updRet o vid f).kind = o.kind := by
  unfold updRet; split <;> rfl
theorem updRet_args (o : OpInfo τ) (vid : Nat) (f) : (updRet o vid f).args = o.args := by
  unfold updRet; split <;> rfl
theorem updRet_length (o : OpInfo τ) (vid : Nat) (f) : (updRet o vid f).rets.length = o.rets.length := by
  unfold updRet; split <;> simp

theorem updNode_ops_getElem? (s : State τ) (a : Addr) (f : NodeInfo τ → NodeInfo τ) (i : Nat) :
    (s.updNode a f).ops[i]? = if i = a.oid then (s.ops[i]?).map (fun o => updRet o a.vid f) else s.ops[i]? := by
  unfold State.updNode
  cases h : s.ops[a.oid]? with
  | none => by_cases hi : i = a.oid <;> simp_all
  | some o =>
    by_cases hi : i = a.oid
    · subst hi
      obtain ⟨hl, he⟩ := List.getElem?_eq_some_iff.mp h
      simp [hl, he]
    · simp [hi, List.getElem?_set_ne (Ne.symm hi)]

theorem updNode_length (s : State τ) (a : Addr) (f) : (s.updNode a f).ops.length = s.ops.length := by
  unfold State.updNode; split <;> simp

@[simp] theorem updNode_params (s : State τ) (a : Addr) (f) : (s.updNode a f).params = s.params := by
  unfold State.updNode; split <;> rfl

theorem updNode_node? (s : State τ) (a b : Addr) (f : NodeInfo τ → NodeInfo τ) :
    (s.updNode a f).node? b = if b = a then (s.node? a).map f else s.node? b := by
  unfold State.node?
  rw [updNode_ops_getElem?]
  by_cases ho : b.oid = a.oid
  · simp only [ho, if_true]
    cases h : s.ops[a.oid]? with
    | none => simp
    | some o =>
      simp only [Option.map_some, updRet_getElem?]
      by_cases hv : b.vid = a.vid
      · have : b = a := (Addr.eq_iff _ _).mpr ⟨ho, hv⟩
        simp [this]
      · have : b ≠ a := fun e => hv (by rw [e])
        simp [hv, this]
  · have : b ≠ a := fun e => ho (by rw [e])
    simp [ho, this]

/-! ### views: what two states agree on -/

/-- The operators of `s` with every node seen through `π`.  `s.skel`, `s.gskel` and `s.shape` are the
views through `NodeInfo.skel`, `NodeInfo.gskel` and `NodeInfo.size`, by definition; so a lemma about
states with equal views applies to all three. -/
def State.view {β : Type} (π : NodeInfo τ → β) (s : State τ) : List (Kind τ × List Addr × List β) :=
  s.ops.map fun o => (o.kind, o.args, o.rets.map π)

section view
variable {β : Type} {π : NodeInfo τ → β} {s s' : State τ}

theorem view_op (h : s'.view π = s.view π) (i : Nat) :
    (s'.ops[i]?).map (fun o => (o.kind, o.args, o.rets.map π))
      = (s.ops[i]?).map fun o => (o.kind, o.args, o.rets.map π) := by
  simpa [State.view] using congrArg (·[i]?) h

theorem view_op_none (h : s'.view π = s.view π) {i : Nat} (ho : s.ops[i]? = none) : s'.ops[i]? = none := by
  simpa [ho] using view_op h i

theorem view_op_some (h : s'.view π = s.view π) {i : Nat} {o : OpInfo τ} (ho : s.ops[i]? = some o) :
    ∃ o', s'.ops[i]? = some o' ∧ o'.kind = o.kind ∧ o'.args = o.args ∧ o'.rets.map π = o.rets.map π := by
  simpa [ho] using view_op h i

theorem view_length (h : s'.view π = s.view π) : s'.ops.length = s.ops.length := by
  simpa [State.view] using congrArg List.length h

theorem view_node (h : s'.view π = s.view π) (a : Addr) : (s'.node? a).map π = (s.node? a).map π := by
  unfold State.node?
  cases ho : s.ops[a.oid]? with
  | none => rw [view_op_none h ho]
  | some o =>
    obtain ⟨o', ho', _, _, hr⟩ := view_op_some h ho
    rw [ho']
    simpa using congrArg (·[a.vid]?) hr

theorem view_validAddr (h : s'.view π = s.view π) (a : Addr) : s'.validAddr a = s.validAddr a := by
  unfold State.validAddr
  cases ho : s.ops[a.oid]? with
  | none => rw [view_op_none h ho]
  | some o =>
    obtain ⟨o', ho', _, _, hr⟩ := view_op_some h ho
    have hl : o'.rets.length = o.rets.length := by simpa using congrArg List.length hr
    rw [ho']
    simp only [hl]

/-- what is read off the kind and the arguments of an operator record -/
theorem view_match {γ : Type} (h : s'.view π = s.view π) (F : Kind τ → List Addr → γ) (d : γ) (i : Nat) :
    (match s'.ops[i]? with | some o => F o.kind o.args | none => d) =
      match s.ops[i]? with | some o => F o.kind o.args | none => d := by
  cases ho : s.ops[i]? with
  | none => rw [view_op_none h ho]
  | some o => obtain ⟨o', ho', hk, ha, _⟩ := view_op_some h ho; rw [ho']; simp only [hk, ha]

theorem view_argsOf (h : s'.view π = s.view π) : s'.argsOf = s.argsOf :=
  funext (view_match h (fun _ a => a) [])

theorem view_isParam (h : s'.view π = s.view π) : s'.isParam = s.isParam :=
  funext (view_match h (fun k _ => k.isParam) false)

theorem view_isRnd (h : s'.view π = s.view π) : s'.isRnd = s.isRnd :=
  funext (view_match h (fun k _ => k.isRnd) false)

theorem view_kindAt (h : s'.view π = s.view π) : s'.kindAt = s.kindAt := by
  funext i
  unfold State.kindAt
  cases ho : s.ops[i]? with
  | none => rw [view_op_none h ho]
  | some o => obtain ⟨o', ho', hk, _, _⟩ := view_op_some h ho; rw [ho', Option.map_some, hk]; rfl

theorem view_argsBelow (h : s'.view π = s.view π) (hs : ArgsBelow s) : ArgsBelow s' := by
  intro i o' ho' a ha
  obtain ⟨o, ho, _, hargs, _⟩ := view_op_some h.symm ho'
  exact hs i o ho a (hargs ▸ ha)

theorem view_comp {γ : Type} (h : s'.view π = s.view π) (f : β → γ) : s'.view (f ∘ π) = s.view (f ∘ π) := by
  have : ∀ s : State τ, s.view (f ∘ π) = (s.view π).map fun x => (x.1, x.2.1, x.2.2.map f) := by
    intro s; simp [State.view]
  rw [this, this, h]

theorem view_set (π : NodeInfo τ → β) (s : State τ) {i : Nat} {o : OpInfo τ} (o' : OpInfo τ)
    (ho : s.ops[i]? = some o) (hk : o'.kind = o.kind) (ha : o'.args = o.args)
    (hr : o'.rets.map π = o.rets.map π) :
    ({ s with ops := s.ops.set i o' } : State τ).view π = s.view π := by
  simp only [State.view, List.map_set]
  exact list_set_eq_self (by simp [ho, hk, ha, hr])

theorem updRet_map (π : NodeInfo τ → β) (o : OpInfo τ) (vid : Nat) (f : NodeInfo τ → NodeInfo τ)
    (hf : ∀ n, π (f n) = π n) : (updRet o vid f).rets.map π = o.rets.map π := by
  apply List.ext_getElem?
  intro j
  rw [List.getElem?_map, List.getElem?_map, updRet_getElem?]
  split
  · cases o.rets[j]? <;> simp [hf]
  · rfl

theorem updNode_view (π : NodeInfo τ → β) (s : State τ) (a : Addr) (f : NodeInfo τ → NodeInfo τ)
    (hf : ∀ n, π (f n) = π n) : (s.updNode a f).view π = s.view π := by
  unfold State.updNode
  split
  · exact view_set π s _ ‹_› (updRet_kind ..) (updRet_args ..) (updRet_map π _ _ _ hf)
  · rfl

end view

theorem rets_of_skel {r r' : List (NodeInfo τ)} (h : r'.map NodeInfo.skel = r.map NodeInfo.skel) :
    r'.length = r.length ∧ r'.map (·.value) = r.map (·.value) ∧ r'.map (·.size) = r.map (·.size) := by
  refine ⟨by simpa using congrArg List.length h, ?_, ?_⟩
  · simpa [Function.comp_def, NodeInfo.skel] using congrArg (List.map Prod.snd) h
  · simpa [Function.comp_def, NodeInfo.skel] using congrArg (List.map Prod.fst) h

theorem shape_of_skel {s s' : State τ} (h : s'.skel = s.skel) : s'.shape = s.shape :=
  view_comp (π := NodeInfo.skel) h Prod.fst

theorem shape_of_gskel {s s' : State τ} (h : s'.gskel = s.gskel) : s'.shape = s.shape :=
  view_comp (π := NodeInfo.gskel) h Prod.fst

theorem skel_validAddr {s s' : State τ} (h : s'.skel = s.skel) (a : Addr) :
    s'.validAddr a = s.validAddr a := view_validAddr h a

theorem gskel_validAddr {s s' : State τ} (h : s'.gskel = s.gskel) (a : Addr) :
    s'.validAddr a = s.validAddr a := view_validAddr h a

theorem argsOf_of_gskel {s s' : State τ} (h : s'.gskel = s.gskel) : s'.argsOf = s.argsOf := view_argsOf h

theorem skel_valueOf {s s' : State τ} (h : s'.skel = s.skel) (hp : s'.params.value = s.params.value) (a : Addr) :
    s'.valueOf? a = s.valueOf? a := by
  unfold State.valueOf?
  cases ho : s.ops[a.oid]? with
  | none => rw [view_op_none h ho]
  | some o =>
    obtain ⟨o', ho', hk, _, hr⟩ := view_op_some h ho
    have hn : (o'.rets[a.vid]?).map NodeInfo.skel = (o.rets[a.vid]?).map NodeInfo.skel := by
      simpa using congrArg (·[a.vid]?) hr
    rw [ho']
    simp only [hk, hp]
    cases o.kind with
    | param p => rfl
    | op _ | rnd => cases h1 : o'.rets[a.vid]? <;> cases h2 : o.rets[a.vid]? <;> simp_all [NodeInfo.skel]

theorem gskel_gradAt {s s' : State τ} (h : s'.gskel = s.gskel) (a : Addr) : s'.gradAt a = s.gradAt a := by
  have := view_node h a
  unfold State.gradAt
  cases h1 : s'.node? a <;> cases h2 : s.node? a <;> simp_all [NodeInfo.gskel]

/-- `s'` differs from `s` at most in node gradients and parameter gradients -/
structure SameFrame (s s' : State τ) : Prop where
  skel : s'.skel = s.skel
  pvalue : s'.params.value = s.params.value
  log : s'.log = s.log
  rndPos : s'.rndPos = s.rndPos
  sample : s'.sample = s.sample
  failIn : s'.failIn = s.failIn

theorem SameFrame.refl (s : State τ) : SameFrame s s := ⟨rfl, rfl, rfl, rfl, rfl, rfl⟩
theorem SameFrame.trans {s s' s'' : State τ} (h : SameFrame s s') (h' : SameFrame s' s'') : SameFrame s s'' :=
  ⟨h'.skel.trans h.skel, h'.pvalue.trans h.pvalue, h'.log.trans h.log, h'.rndPos.trans h.rndPos,
   h'.sample.trans h.sample, h'.failIn.trans h.failIn⟩

def NodeInfo.strip (n : NodeInfo τ) : NodeInfo τ := { n with grad := none }
def OpInfo.strip (o : OpInfo τ) : OpInfo τ := { o with rets := o.rets.map NodeInfo.strip }

/-- `SameFrame` with the unchanged part of the operators written as the operators without gradients -/
structure SameVals (s s' : State τ) : Prop where
  ops : s'.ops.map OpInfo.strip = s.ops.map OpInfo.strip
  log : s'.log = s.log
  rndPos : s'.rndPos = s.rndPos
  pvalue : s'.params.value = s.params.value
  sample : s'.sample = s.sample
  failIn : s'.failIn = s.failIn

theorem SameVals.refl (s : State τ) : SameVals s s := ⟨rfl, rfl, rfl, rfl, rfl, rfl⟩
theorem SameVals.trans {s s1 s2 : State τ} (h1 : SameVals s s1) (h2 : SameVals s1 s2) : SameVals s s2 :=
  ⟨h2.ops.trans h1.ops, h2.log.trans h1.log, h2.rndPos.trans h1.rndPos, h2.pvalue.trans h1.pvalue,
   h2.sample.trans h1.sample, h2.failIn.trans h1.failIn⟩
theorem SameVals.symm {s s1 : State τ} (h1 : SameVals s s1) : SameVals s1 s :=
  ⟨h1.ops.symm, h1.log.symm, h1.rndPos.symm, h1.pvalue.symm, h1.sample.symm, h1.failIn.symm⟩

/-- `strip` and `skel` keep the same of an operator: each list is the image of the other -/
theorem skel_eq_iff_strip {s s' : State τ} :
    s'.skel = s.skel ↔ s'.ops.map OpInfo.strip = s.ops.map OpInfo.strip := by
  have h1 : ∀ s : State τ, s.skel = (s.ops.map OpInfo.strip).map OpInfo.skel := by
    intro s; simp [State.skel, OpInfo.skel, OpInfo.strip, NodeInfo.skel, NodeInfo.strip, Function.comp_def]
  have h2 : ∀ s : State τ, s.ops.map OpInfo.strip =
      s.skel.map fun x => ⟨x.1, x.2.1, x.2.2.map fun y => ⟨y.1, y.2, none⟩⟩ := by
    intro s; simp [State.skel, OpInfo.skel, OpInfo.strip, NodeInfo.skel, NodeInfo.strip, Function.comp_def]
  exact ⟨fun h => by rw [h2, h2, h], fun h => by rw [h1, h1, h]⟩

theorem SameVals.sameFrame {s s' : State τ} (h : SameVals s s') : SameFrame s s' :=
  ⟨skel_eq_iff_strip.2 h.ops, h.pvalue, h.log, h.rndPos, h.sample, h.failIn⟩

theorem SameFrame.sameVals {s s' : State τ} (h : SameFrame s s') : SameVals s s' :=
  ⟨skel_eq_iff_strip.1 h.skel, h.log, h.rndPos, h.pvalue, h.sample, h.failIn⟩

/-- `s'` differs from `s` at most in node values, `log`, `rndPos`, `failIn` -/
structure FwdFrame (s s' : State τ) : Prop where
  gskel : s'.gskel = s.gskel
  params : s'.params = s.params
  sample : s'.sample = s.sample

theorem FwdFrame.refl (s : State τ) : FwdFrame s s := ⟨rfl, rfl, rfl⟩
theorem FwdFrame.trans {s s' s'' : State τ} (h : FwdFrame s s') (h' : FwdFrame s' s'') : FwdFrame s s'' :=
  ⟨h'.gskel.trans h.gskel, h'.params.trans h.params, h'.sample.trans h.sample⟩

theorem updNode_sameFrame (s : State τ) (a : Addr) (f : NodeInfo τ → NodeInfo τ)
    (hf : ∀ n, (f n).skel = n.skel) : SameFrame s (s.updNode a f) := by
  refine ⟨updNode_view NodeInfo.skel s a f hf, ?_, ?_, ?_, ?_, ?_⟩ <;> (unfold State.updNode; split <;> rfl)

/-! ### zero-fill, contributions, invalidation: each keeps the frame -/

def zfNode (T : TOps τ) (n : NodeInfo τ) : NodeInfo τ :=
  match n.grad with
  | some _ => n
  | none => { n with grad := some (T.zeros n.size) }

theorem zfNode_skel (T : TOps τ) (n : NodeInfo τ) : (zfNode T n).skel = n.skel := by
  unfold zfNode; split <;> rfl

theorem zfNode_grad (T : TOps τ) (n : NodeInfo τ) : (zfNode T n).grad = some (n.grad.getD (T.zeros n.size)) := by
  unfold zfNode; split <;> simp_all

theorem zfNode_idem (T : TOps τ) (n : NodeInfo τ) : zfNode T (zfNode T n) = zfNode T n := by
  unfold zfNode; cases h : n.grad <;> simp [h]

theorem zeroFill_cons (T : TOps τ) (s : State τ) (a : Addr) (rest : List Addr) :
    zeroFill T s (a :: rest) = zeroFill T (s.updNode a (zfNode T)) rest := rfl

theorem zeroFill_sameFrame (T : TOps τ) (l : List Addr) : ∀ s : State τ, SameFrame s (zeroFill T s l) := by
  induction l with
  | nil => intro s; exact SameFrame.refl s
  | cons a rest ih =>
    intro s
    rw [zeroFill_cons]
    exact (updNode_sameFrame s a _ (zfNode_skel T)).trans (ih _)

@[simp] theorem zeroFill_params (T : TOps τ) (l : List Addr) : ∀ s : State τ, (zeroFill T s l).params = s.params := by
  induction l with
  | nil => intro s; rfl
  | cons a rest ih => intro s; rw [zeroFill_cons, ih]; simp

theorem node?_zeroFill (T : TOps τ) (l : List Addr) : ∀ (s : State τ) (b : Addr),
    (zeroFill T s l).node? b = if b ∈ l then (s.node? b).map (zfNode T) else s.node? b := by
  induction l with
  | nil => intro s b; simp [zeroFill]
  | cons a rest ih =>
    intro s b
    rw [zeroFill_cons, ih, updNode_node?]
    by_cases hba : b = a
    · subst hba
      simp only [if_true, List.mem_cons, true_or]
      cases hn : s.node? b with
      | none => simp
      | some n => simp [zfNode_idem]
    · simp [hba]

def addNode (T : TOps τ) (c : τ) (n : NodeInfo τ) : NodeInfo τ :=
  match n.grad with
  | some g => { n with grad := some (T.add g c) }
  | none => n

theorem addNode_skel (T : TOps τ) (c : τ) (n : NodeInfo τ) : (addNode T c n).skel = n.skel := by
  unfold addNode; split <;> rfl

theorem addNode_grad (T : TOps τ) (c : τ) (n : NodeInfo τ) : (addNode T c n).grad = n.grad.map (T.add · c) := by
  unfold addNode; split <;> simp_all

theorem addContribs_none (T : TOps τ) (s : State τ) (a : Addr) (rest) :
    addContribs T s ((a, none) :: rest) = addContribs T s rest := rfl
theorem addContribs_some (T : TOps τ) (s : State τ) (a : Addr) (c : τ) (rest) :
    addContribs T s ((a, some c) :: rest) = addContribs T (s.updNode a (addNode T c)) rest := rfl

theorem addContribs_sameFrame (T : TOps τ) (l : List (Addr × Option τ)) :
    ∀ s : State τ, SameFrame s (addContribs T s l) := by
  induction l with
  | nil => intro s; exact SameFrame.refl s
  | cons x rest ih =>
    intro s
    obtain ⟨a, c⟩ := x
    cases c with
    | none => rw [addContribs_none]; exact ih s
    | some c =>
      rw [addContribs_some]
      exact (updNode_sameFrame s a _ (addNode_skel T c)).trans (ih _)

@[simp] theorem addContribs_params (T : TOps τ) (l : List (Addr × Option τ)) :
    ∀ s : State τ, (addContribs T s l).params = s.params := by
  induction l with
  | nil => intro s; rfl
  | cons x rest ih =>
    intro s
    obtain ⟨a, c⟩ := x
    cases c with
    | none => rw [addContribs_none]; exact ih s
    | some c => rw [addContribs_some, ih]; simp

theorem invalidateGrads_sameFrame (s : State τ) (k : Nat) : SameFrame s (invalidateGrads s k) := by
  unfold invalidateGrads
  split
  · exact SameFrame.refl s
  · rename_i o ho
    exact ⟨view_set NodeInfo.skel s _ ho rfl rfl (by simp [NodeInfo.skel, Function.comp_def]), rfl, rfl, rfl, rfl, rfl⟩

@[simp] theorem invalidateGrads_params (s : State τ) (k : Nat) : (invalidateGrads s k).params = s.params := by
  unfold invalidateGrads; split <;> rfl

theorem ops_getElem?_node? {s : State τ} {k : Nat} {o : OpInfo τ} (ho : s.ops[k]? = some o) (j : Nat) :
    s.node? ⟨k, j⟩ = o.rets[j]? := by
  simp [State.node?, ho]

theorem argsOf_eq {s : State τ} {k : Nat} {o : OpInfo τ} (ho : s.ops[k]? = some o) : s.argsOf k = o.args := by
  simp [State.argsOf, ho]

theorem mem_retAddrs (k : Nat) (o : OpInfo τ) (b : Addr) : b ∈ retAddrs k o ↔ b.oid = k ∧ b.vid < o.rets.length := by
  unfold retAddrs
  simp only [List.mem_map, List.mem_range]
  constructor
  · rintro ⟨i, hi, rfl⟩; exact ⟨rfl, hi⟩
  · rintro ⟨h1, h2⟩; exact ⟨b.vid, h2, by cases b; simp_all⟩

theorem rets_after_zeroFill (T : TOps τ) (s : State τ) (k : Nat) (o o2 : OpInfo τ) (l : List Addr)
    (ho : s.ops[k]? = some o) (ho2 : (zeroFill T (zeroFill T s (retAddrs k o)) l).ops[k]? = some o2) :
    o2.rets = o.rets.map (zfNode T) := by
  apply List.ext_getElem?
  intro j
  rw [← ops_getElem?_node? ho2 j, node?_zeroFill, node?_zeroFill, ops_getElem?_node? ho j, List.getElem?_map]
  by_cases hj : j < o.rets.length
  · have hm : (⟨k, j⟩ : Addr) ∈ retAddrs k o := (mem_retAddrs k o _).mpr ⟨rfl, hj⟩
    simp only [hm, if_true]
    split
    · cases o.rets[j]? <;> simp [zfNode_idem]
    · rfl
  · have : o.rets[j]? = none := by simp; omega
    simp [this]

/-- what the operator's backward rule does to the state after the zero-fills -/
def stepCore (T : TOps τ) (s2 : State τ) (o : OpInfo τ) (xs ys gys : List τ) : State τ :=
  match o.kind with
  | .param p =>
    match gys with
    | g :: _ => { s2 with params := { s2.params with
                    grad := fun q => if q = p then T.add (s2.params.grad p) g else s2.params.grad q } }
    | [] => s2
  | .rnd => s2
  | .op sem => addContribs T s2 (o.args.zip (sem.bwd xs ys gys))

def OpInfo.enabled (o : OpInfo τ) : Bool := o.rets.any fun n => n.grad.isSome
def OpInfo.ys (o : OpInfo τ) : List τ := o.rets.filterMap (·.value)
def OpInfo.gys (T : TOps τ) (o : OpInfo τ) : List τ := o.rets.map fun n => n.grad.getD (T.zeros n.size)

theorem ys_of_skel {o o' : OpInfo τ} (h : o'.rets.map NodeInfo.skel = o.rets.map NodeInfo.skel) :
    o'.ys = o.ys := by
  have h1 : ∀ l : List (NodeInfo τ), l.filterMap (·.value) = (l.map NodeInfo.skel).filterMap Prod.snd := by
    intro l; rw [List.filterMap_map]; rfl
  unfold OpInfo.ys
  rw [h1, h1, h]

theorem filterMap_value_zf (T : TOps τ) (l : List (NodeInfo τ)) :
    (l.map (zfNode T)).filterMap (·.value) = l.filterMap (·.value) := by
  induction l with
  | nil => rfl
  | cons n rest ih =>
    have : (zfNode T n).value = n.value := congrArg Prod.snd (zfNode_skel T n)
    simp [List.filterMap_cons, this, ih]

theorem filterMap_grad_zf (T : TOps τ) (l : List (NodeInfo τ)) :
    (l.map (zfNode T)).filterMap (·.grad) = l.map fun n => n.grad.getD (T.zeros n.size) := by
  induction l with
  | nil => rfl
  | cons n rest ih => simp [zfNode_grad, ih]

theorem backwardStep_eq (T : TOps τ) (s : State τ) (k : Nat) :
    backwardStep T s k =
      match s.ops[k]? with
      | none => (s, .error .crash)
      | some o =>
        if !o.enabled then (s, .ok ())
        else match o.args.mapM s.valueOf? with
          | none => (zeroFill T s (retAddrs k o), .error .error)
          | some xs =>
            (invalidateGrads (stepCore T (zeroFill T (zeroFill T s (retAddrs k o)) o.args) o xs o.ys (o.gys T)) k, .ok ()) := by
  unfold backwardStep
  cases ho : s.ops[k]? with
  | none => rfl
  | some o =>
    simp only
    by_cases he : (!o.enabled) = true
    · have he' : (!o.rets.any fun n => n.grad.isSome) = true := he
      rw [if_pos he, if_pos he']
    · have he' : ¬ (!o.rets.any fun n => n.grad.isSome) = true := he
      rw [if_neg he, if_neg he']
      have hf1 := zeroFill_sameFrame T (retAddrs k o) s
      have hv : (zeroFill T s (retAddrs k o)).valueOf? = s.valueOf? :=
        funext (skel_valueOf hf1.skel hf1.pvalue)
      rw [hv]
      cases hxs : o.args.mapM s.valueOf? with
      | none => rfl
      | some xs =>
        simp only
        have hf2 := zeroFill_sameFrame T o.args (zeroFill T s (retAddrs k o))
        obtain ⟨o2, ho2, _⟩ := view_op_some (hf1.trans hf2).skel ho
        rw [ho2]
        simp only
        have hr := rets_after_zeroFill T s k o o2 o.args ho ho2
        rw [hr, filterMap_value_zf, filterMap_grad_zf]
        rfl

theorem stepCore_sameFrame (T : TOps τ) (s2 : State τ) (o : OpInfo τ) (xs ys gys : List τ) :
    SameFrame s2 (stepCore T s2 o xs ys gys) := by
  unfold stepCore
  split
  · split
    · exact ⟨rfl, rfl, rfl, rfl, rfl, rfl⟩
    · exact SameFrame.refl _
  · exact SameFrame.refl _
  · exact addContribs_sameFrame T _ _

theorem backwardStep_sameFrame (T : TOps τ) (s : State τ) (k : Nat) : SameFrame s (backwardStep T s k).1 := by
  rw [backwardStep_eq]
  split
  · exact SameFrame.refl _
  · split
    · exact SameFrame.refl _
    · split
      · exact zeroFill_sameFrame T _ _
      · exact ((zeroFill_sameFrame T _ _).trans (zeroFill_sameFrame T _ _)).trans
          ((stepCore_sameFrame T _ _ _ _ _).trans (invalidateGrads_sameFrame _ _))

theorem sweep_zero (T : TOps τ) (s : State τ) : sweep T 0 s = (s, .ok ()) := rfl

theorem sweep_succ_ok (T : TOps τ) {s s1 : State τ} {k : Nat} (h : backwardStep T s k = (s1, .ok ())) :
    sweep T (k + 1) s = sweep T k s1 := by
  simp only [sweep, h]

theorem sweep_succ_err (T : TOps τ) {s s1 : State τ} {k : Nat} {e : Err} (h : backwardStep T s k = (s1, .error e)) :
    sweep T (k + 1) s = (s1, .error e) := by
  simp only [sweep, h]

/-- Induction along the loop: `P k` holds of the state before the iteration for operator `k - 1`, `R` of
the outcome, whether the loop runs to its end or an iteration fails. -/
theorem sweep_ind (T : TOps τ) (P : Nat → State τ → Prop) (R : State τ × Except Err Unit → Prop)
    (hend : ∀ s, P 0 s → R (s, .ok ()))
    (hok : ∀ k s s1, P (k + 1) s → backwardStep T s k = (s1, .ok ()) → P k s1)
    (herr : ∀ k s s1 e, P (k + 1) s → backwardStep T s k = (s1, .error e) → R (s1, .error e)) :
    ∀ k s, P k s → R (sweep T k s) := by
  intro k
  induction k with
  | zero => exact hend
  | succ k ih =>
    intro s h
    rcases hb : backwardStep T s k with ⟨s1, r⟩
    cases r with
    | error e => rw [sweep_succ_err T hb]; exact herr k s s1 e h hb
    | ok u => cases u; rw [sweep_succ_ok T hb]; exact ih s1 (hok k s s1 h hb)

theorem sweep_inv (T : TOps τ) (Q : State τ → Prop) (hstep : ∀ k s, Q s → Q (backwardStep T s k).1) :
    ∀ k s, Q s → Q (sweep T k s).1 :=
  sweep_ind T (fun _ => Q) (fun r => Q r.1) (fun _ h => h)
    (fun k s _ h hb => by have := hstep k s h; rwa [hb] at this)
    (fun k s _ _ h hb => by have := hstep k s h; rwa [hb] at this)

theorem sweep_inv_total (T : TOps τ) (P : Nat → State τ → Prop)
    (hstep : ∀ k s, P (k + 1) s → ∃ s1, backwardStep T s k = (s1, .ok ()) ∧ P k s1) :
    ∀ k s, P k s → ∃ s', sweep T k s = (s', .ok ()) ∧ P 0 s' :=
  sweep_ind T P (fun r => ∃ s', r = (s', .ok ()) ∧ P 0 s') (fun s h => ⟨s, rfl, h⟩)
    (fun k s _ h hb => by obtain ⟨_, hb', h1⟩ := hstep k s h; rw [hb] at hb'; cases hb'; exact h1)
    (fun k s _ _ h hb => by obtain ⟨_, hb', _⟩ := hstep k s h; rw [hb] at hb'; cases hb')

theorem sweep_sameFrame (T : TOps τ) (k : Nat) (s : State τ) : SameFrame s (sweep T k s).1 :=
  sweep_inv T (SameFrame s) (fun k _ h => h.trans (backwardStep_sameFrame T _ k)) k s (SameFrame.refl s)

/-! ### `forwardRec` in terms of `evalSelf` and `forwardOp` -/

/-- empty the fault schedule ("memory is available again") -/
def State.clr (s : State τ) : State τ := { s with failIn := none }

/-- what the operator's own forward yields: the next sample for a random source, `fwd` of the
argument values otherwise -/
def Kind.yield (kind : Kind τ) (s : State τ) (n : NodeInfo τ) (xs : List τ) : Option (List τ) :=
  match kind with
  | .param _ => none
  | .rnd => some [s.sample s.rndPos n.size]
  | .op sem => sem.fwd xs

/-- the fault schedule counted down by a schedulable forward that runs -/
def State.tick (s : State τ) (kind : Kind τ) : State τ :=
  { s with failIn := if kind.faulty then s.failIn.map (· - 1) else s.failIn }

/-- log operator `k` as evaluated, advance the stream if it is a random source, store its values -/
def State.commit (s : State τ) (kind : Kind τ) (k : Nat) (ys : List τ) : State τ :=
  ({ s with rndPos := if kind.isRnd then s.rndPos + 1 else s.rndPos, log := s.log ++ [k] }).storeValues k ys

/-- The part of `forwardRec` that runs the operator's own forward once its arguments are there:
the scheduled failure fires, or the operator throws by itself, or its values are stored.  A random
source answers with its one sample whatever index was asked for (the model returns it without a lookup),
so only an `op` can end in `.crash`. -/
def evalSelf (kind : Kind τ) (n : NodeInfo τ) (a : Addr) (s : State τ) (xs : List τ) : State τ × Except Err τ :=
  if kind.faulty = true ∧ s.failIn = some 0 then (s.clr, .error .error)
  else match kind.yield s n xs with
    | none => (s.tick kind, .error .error)
    | some ys => ((s.tick kind).commit kind a.oid ys,
        match ys[if kind.isRnd then 0 else a.vid]? with
        | some v => .ok v
        | none => .error .crash)

/-- `forward_recursive` at a return value of an operator `o` without inner values; `ev` evaluates the
arguments -/
def forwardOp (ev : State τ → Addr → State τ × Except Err τ) (s : State τ) (a : Addr) (o : OpInfo τ) :
    State τ × Except Err τ :=
  match o.rets[a.vid]? with
  | none => (s, .error .crash)
  | some n =>
    match n.value with
    | some v => (s, .ok v)
    | none =>
      match forwardArgsWith ev s o.args with
      | (s1, .error e) => (s1, .error e)
      | (s1, .ok xs) => evalSelf o.kind n a s1 xs

theorem forwardRec_succ (T : TOps τ) (fuel : Nat) (s : State τ) (a : Addr) :
    forwardRec T (fuel + 1) s a =
      match s.ops[a.oid]? with
      | none => (s, .error .crash)
      | some o =>
        match o.kind with
        | .param p => if a.vid = 0 then (s, .ok (s.params.value p)) else (s, .error .crash)
        | _ => forwardOp (forwardRec T fuel) s a o := by
  rw [forwardRec]
  cases s.ops[a.oid]? with
  | none => rfl
  | some o =>
    simp only [forwardOp]
    cases o.kind with
    | param p => rfl
    | rnd | op sem =>
      simp only
      cases o.rets[a.vid]? with
      | none => rfl
      | some n =>
        simp only
        cases n.value with
        | some v => rfl
        | none =>
          simp only
          rcases forwardArgsWith (forwardRec T fuel) s o.args with ⟨⟨ops, params, log, rndPos, sample, fi⟩, r⟩
          cases r with
          | error e => rfl
          | ok xs =>
            -- the two ways of writing the schedule test are compared by evaluation
            unfold evalSelf
            rcases fi with _ | _ | m <;>
              simp [Kind.faulty, Kind.yield, State.tick, Kind.isRnd, State.commit, State.clr]
            all_goals
              rcases Bool.eq_false_or_eq_true sem.faulty with hfa | hfa <;>
                rcases sem.fwd xs with _ | ys <;> simp [hfa]
            all_goals (cases ys[a.vid]? <;> rfl)

theorem forwardRec_stored (T : TOps τ) {fuel : Nat} {s : State τ} {b : Addr} {x : τ}
    (hv : s.validAddr b = true) (hlt : b.oid < fuel) (hx : s.valueOf? b = some x) :
    forwardRec T fuel s b = (s, .ok x) := by
  cases fuel with
  | zero => omega
  | succ fuel =>
    obtain ⟨o, ho, hvid⟩ := validAddr_iff.1 hv
    rw [forwardRec_succ]
    unfold State.valueOf? at hx
    simp only [ho] at hx ⊢
    cases hk : o.kind with
    | param p =>
      simp only [hk] at hx ⊢
      by_cases h0 : b.vid = 0
      · simp only [h0, if_true, Option.some.injEq] at hx ⊢; rw [hx]
      · simp [h0] at hx
    | rnd | op sem =>
      simp only [hk, forwardOp] at hx ⊢
      cases hn : o.rets[b.vid]? with
      | none => simp [hn] at hx
      | some n => simp only [hn] at hx ⊢; rw [hx]

theorem forwardRec_eval (T : TOps τ) (fuel : Nat) {s : State τ} {a : Addr} {o : OpInfo τ} {n : NodeInfo τ}
    (ho : s.ops[a.oid]? = some o) (hn : o.rets[a.vid]? = some n) (hval : n.value = none)
    (hnp : o.kind.isParam = false) :
    forwardRec T (fuel + 1) s a =
      match forwardArgsWith (forwardRec T fuel) s o.args with
      | (s1, .error e) => (s1, .error e)
      | (s1, .ok xs) => evalSelf o.kind n a s1 xs := by
  rw [forwardRec_succ]
  simp only [ho]
  cases hk : o.kind with
  | param p => simp [hk, Kind.isParam] at hnp
  | rnd | op sem => simp only [forwardOp, hn, hval, hk]

theorem forwardArgsWith_cons (ev : State τ → Addr → State τ × Except Err τ) (s : State τ) (b : Addr)
    (rest : List Addr) :
    forwardArgsWith ev s (b :: rest) =
      match ev s b with
      | (s1, .error e) => (s1, .error e)
      | (s1, .ok v) => ((forwardArgsWith ev s1 rest).1, (forwardArgsWith ev s1 rest).2.map (v :: ·)) := by
  rw [forwardArgsWith]
  cases ev s b with
  | mk s1 r =>
    cases r with
    | error e => rfl
    | ok v =>
      simp only
      cases forwardArgsWith ev s1 rest with
      | mk s2 r2 => cases r2 <;> rfl

theorem forwardArgsWith_singleton (ev : State τ → Addr → State τ × Except Err τ) (s : State τ) (a : Addr) :
    forwardArgsWith ev s [a] = ((ev s a).1, (ev s a).2.map ([·])) := by
  rw [forwardArgsWith_cons]
  cases ev s a with
  | mk s1 r => cases r <;> rfl

/-! ### what `forward` never changes -/

theorem storeValues_fwdFrame (s : State τ) (oid : Nat) (vals : List τ) : FwdFrame s (s.storeValues oid vals) := by
  unfold State.storeValues
  split
  · exact FwdFrame.refl s
  · rename_i o ho
    refine ⟨view_set NodeInfo.gskel s _ ho rfl rfl ?_, rfl, rfl⟩
    apply List.ext_getElem?
    intro j
    simp only [List.getElem?_map, List.getElem?_zipIdx]
    cases o.rets[j]? with
    | none => rfl
    | some n =>
      simp only [Option.map_some, Nat.zero_add]
      cases vals[j]? <;> rfl

theorem forwardArgsWith_fwdFrame (ev : State τ → Addr → State τ × Except Err τ)
    (hev : ∀ s a, FwdFrame s (ev s a).1) :
    ∀ (l : List Addr) (s : State τ), FwdFrame s (forwardArgsWith ev s l).1 := by
  intro l
  induction l with
  | nil => intro s; exact FwdFrame.refl s
  | cons a rest ih =>
    intro s
    simp only [forwardArgsWith]
    have h1 := hev s a
    rcases he : ev s a with ⟨s1, r⟩
    rw [he] at h1
    cases r with
    | error e => exact h1
    | ok v =>
      simp only
      have h2 := ih s1
      rcases hf : forwardArgsWith ev s1 rest with ⟨s2, r2⟩
      rw [hf] at h2
      cases r2 <;> exact h1.trans h2

theorem evalSelf_fwdFrame (kind : Kind τ) (n : NodeInfo τ) (a : Addr) (s : State τ) (xs : List τ) :
    FwdFrame s (evalSelf kind n a s xs).1 := by
  unfold evalSelf
  split
  · exact ⟨rfl, rfl, rfl⟩
  · split
    · exact ⟨rfl, rfl, rfl⟩
    · dsimp only [State.commit]
      refine FwdFrame.trans ?_ (storeValues_fwdFrame _ _ _)
      exact ⟨rfl, rfl, rfl⟩

theorem forwardOp_fwdFrame (ev : State τ → Addr → State τ × Except Err τ) (hev : ∀ s a, FwdFrame s (ev s a).1)
    (s : State τ) (a : Addr) (o : OpInfo τ) : FwdFrame s (forwardOp ev s a o).1 := by
  unfold forwardOp
  split
  · exact FwdFrame.refl s
  · split
    · exact FwdFrame.refl s
    · have h1 := forwardArgsWith_fwdFrame ev hev o.args s
      rcases hf : forwardArgsWith ev s o.args with ⟨s1, r⟩
      rw [hf] at h1
      cases r with
      | error e => exact h1
      | ok xs => exact h1.trans (evalSelf_fwdFrame o.kind _ a s1 xs)

theorem forwardRec_fwdFrame (T : TOps τ) : ∀ (fuel : Nat) (s : State τ) (a : Addr),
    FwdFrame s (forwardRec T fuel s a).1 := by
  intro fuel
  induction fuel with
  | zero => intro s a; exact FwdFrame.refl s
  | succ fuel ih =>
    intro s a
    rw [forwardRec_succ]
    split
    · exact FwdFrame.refl s
    · split
      · split <;> exact FwdFrame.refl s
      · exact forwardOp_fwdFrame _ ih s a _

theorem forward_fwdFrame (T : TOps τ) (s : State τ) (a : Addr) : FwdFrame s (forward T s a).1 := by
  unfold forward
  split
  · exact forwardRec_fwdFrame T _ s a
  · exact FwdFrame.refl s

/-! ### `backward` = forward phase, seed, sweep -/

/-- "force to perform the forward operation" -/
def fwdPhase (T : TOps τ) (s : State τ) (a : Addr) : State τ × Except Err Unit :=
  match s.node? a with
  | some n => if n.value.isSome then (s, .ok ()) else
      match forward T s a with
      | (s1, .ok _) => (s1, .ok ())
      | (s1, .error e) => (s1, .error e)
  | none => (s, .error .crash)

/-- "makes the identity gradient at the last node" -/
def seed (T : TOps τ) (s : State τ) (a : Addr) : State τ :=
  s.updNode a fun n => { n with grad := some (T.ones n.size) }

theorem backward_eq (T : TOps τ) (s : State τ) (a : Addr) :
    backward T s a =
      if !s.validAddr a then (s, .error .crash)
      else match fwdPhase T s a with
        | (s1, .error e) => (s1, .error e)
        | (s1, .ok ()) => sweep T (a.oid + 1) (seed T s1 a) := rfl

theorem fwdPhase_memo (T : TOps τ) {s : State τ} {a : Addr} {n : NodeInfo τ} {v : τ}
    (hn : s.node? a = some n) (hval : n.value = some v) : fwdPhase T s a = (s, .ok ()) := by
  simp [fwdPhase, hn, hval]

theorem fwdPhase_unevaluated (T : TOps τ) {s : State τ} {a : Addr} {n : NodeInfo τ}
    (hn : s.node? a = some n) (hval : n.value = none) :
    fwdPhase T s a = ((forward T s a).1, (forward T s a).2.map fun _ => ()) := by
  simp only [fwdPhase, hn, hval, Option.isSome_none, Bool.false_eq_true, if_false]
  rcases forward T s a with ⟨s1, _ | _⟩ <;> rfl

theorem fwdPhase_fwdFrame (T : TOps τ) (s : State τ) (a : Addr) : FwdFrame s (fwdPhase T s a).1 := by
  unfold fwdPhase
  split
  · split
    · exact FwdFrame.refl s
    · have := forward_fwdFrame T s a
      rcases hf : forward T s a with ⟨s1, r⟩
      rw [hf] at this
      cases r <;> exact this
  · exact FwdFrame.refl s

theorem seed_sameFrame (T : TOps τ) (s : State τ) (a : Addr) : SameFrame s (seed T s a) :=
  updNode_sameFrame s a _ (fun _ => rfl)

@[simp] theorem seed_params (T : TOps τ) (s : State τ) (a : Addr) : (seed T s a).params = s.params := by
  simp [seed]

/-- The three ways `backward` can end: the target is no node of the graph, the forward phase fails (in a
state `s1` that `forward` reached), or the seeded sweep runs from such a state. -/
theorem backward_cases (T : TOps τ) (s : State τ) (a : Addr) (R : State τ × Except Err Unit → Prop)
    (hbad : s.validAddr a = false → R (s, .error .crash))
    (hfwd : ∀ s1 e, FwdFrame s s1 → fwdPhase T s a = (s1, .error e) → R (s1, .error e))
    (hsweep : ∀ s1, s.validAddr a = true → FwdFrame s s1 → fwdPhase T s a = (s1, .ok ()) →
      R (sweep T (a.oid + 1) (seed T s1 a))) :
    R (backward T s a) := by
  rw [backward_eq]
  cases hv : s.validAddr a with
  | false => exact hbad hv
  | true =>
    have hf := fwdPhase_fwdFrame T s a
    rcases hp : fwdPhase T s a with ⟨s1, r⟩
    rw [hp] at hf
    cases r with
    | error e => exact hfwd s1 e hf hp
    | ok u => cases u; exact hsweep s1 hv hf hp

theorem backward_sameFrame (T : TOps τ) (s : State τ) (a : Addr) :
    SameFrame (fwdPhase T s a).1 (backward T s a).1 := by
  refine backward_cases T s a (fun r => SameFrame (fwdPhase T s a).1 r.1) (fun hv => ?_)
    (fun s1 e _ hp => by rw [hp]; exact SameFrame.refl _)
    (fun s1 _ _ hp => by rw [hp]; exact (seed_sameFrame T s1 a).trans (sweep_sameFrame T _ _))
  have : s.node? a = none := by rw [validAddr_eq_node] at hv; simpa using hv
  unfold fwdPhase
  rw [this]
  exact SameFrame.refl s

def State.appendOps (s : State τ) (extra : List (OpInfo τ)) : State τ := { s with ops := s.ops ++ extra }

theorem appendOps_getElem? (s : State τ) (e : List (OpInfo τ)) {i : Nat} (h : i < s.ops.length) :
    (s.appendOps e).ops[i]? = s.ops[i]? := List.getElem?_append_left h

theorem appendOps_storeValues (s : State τ) (e : List (OpInfo τ)) (k : Nat) (vals : List τ)
    (h : k < s.ops.length) : (s.appendOps e).storeValues k vals = (s.storeValues k vals).appendOps e := by
  unfold State.storeValues
  rw [appendOps_getElem? s e h]
  cases s.ops[k]? with
  | none => rfl
  | some o => simp [State.appendOps, h]

/-- a transformation `m` of the state that the operator's own forward neither reads nor writes -/
theorem evalSelf_comm (m : State τ → State τ) (kind : Kind τ) (n : NodeInfo τ) (a : Addr) (s : State τ)
    (xs : List τ) (hfail : (m s).failIn = s.failIn) (hy : kind.yield (m s) n xs = kind.yield s n xs)
    (hclr : (m s).clr = m s.clr) (htick : (m s).tick kind = m (s.tick kind))
    (hcommit : ∀ ys, ((m s).tick kind).commit kind a.oid ys = m ((s.tick kind).commit kind a.oid ys)) :
    evalSelf kind n a (m s) xs = (m (evalSelf kind n a s xs).1, (evalSelf kind n a s xs).2) := by
  unfold evalSelf
  rw [hfail, hy]
  split
  · rw [hclr]
  · cases kind.yield s n xs with
    | none => simp only [htick]
    | some ys => simp only [hcommit]

theorem evalSelf_appendOps {s : State τ} {a : Addr} (e : List (OpInfo τ)) (kind : Kind τ) (n : NodeInfo τ)
    (xs : List τ) (h : a.oid < s.ops.length) :
    evalSelf kind n a (s.appendOps e) xs =
      ((evalSelf kind n a s xs).1.appendOps e, (evalSelf kind n a s xs).2) :=
  evalSelf_comm (·.appendOps e) kind n a s xs rfl (by cases kind <;> rfl) rfl rfl
    (fun ys => appendOps_storeValues { (s.tick kind) with
      rndPos := if kind.isRnd then s.rndPos + 1 else s.rndPos, log := s.log ++ [a.oid] } e a.oid ys h)

end Primitiv.Graph
