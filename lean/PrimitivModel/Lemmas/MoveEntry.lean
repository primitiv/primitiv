import PrimitivModel.Lemmas.MoveNoCrash
/-
The form of the data-level entry points of Model/KernelsMove.lean: device checks
on the operands, a shape-level front-end `F`, a loop `k` run on the plan the
front-end returns; `guarded xs (F >>= k)` is that form and every entry point
unfolds to it (`runMany` for the two with a list of operands).  An `ok` outcome
is inverted stage by stage (`fw_inv`, `bw_inv` do the two commonest shapes in one
step, their hypothesis being the `do` block written out); the call cannot crash
if `F` cannot and `k` runs on every plan; an `error` outcome of a call that
cannot crash and whose loop cannot throw comes from a check or from the front-end.
Trap: the Props apply these lemmas to `Move.sliceFw …`, `Move.concatFw …`
themselves.  That works because each entry point of Model/KernelsMove.lean is
definitionally its `guarded …` / `runMany …` form; `xs` has to be given,
unification does not find it.
-/
namespace Primitiv.Move
open Primitiv Primitiv.MoveShape Primitiv.View3

/-- `CHECK_DEVICE` on each of `xs`, then `k` -/
def guarded {α γ} : List (Tensor α) → R γ → R γ
  | [], k => k
  | x :: xs, k => do checkDevice x; guarded xs k

def allHere {α} : List (Tensor α) → Prop
  | [] => True
  | x :: xs => x.loc = .here ∧ allHere xs

def elsewhereOr {α} : List (Tensor α) → Prop → Prop
  | [], P => P
  | x :: xs, P => x.loc ≠ .here ∨ elsewhereOr xs P

theorem guarded_ok {α γ} {xs : List (Tensor α)} {k : R γ} {y : γ} : guarded xs k = .ok y ↔ allHere xs ∧ k = .ok y := by
  induction xs with
  | nil => exact ⟨fun h => ⟨trivial, h⟩, fun h => h.2⟩
  | cons x xs ih =>
    rw [guarded, bind_ok, allHere, and_assoc, ← ih]
    exact ⟨fun ⟨u, hu, h⟩ => ⟨checkDevice_inv hu, h⟩, fun ⟨hl, h⟩ => ⟨(), checkDevice_ok hl, h⟩⟩

theorem fw_inv {α} {x y : Tensor α} {F : R (Shape × Moves)} {raw : Nat → α}
    (h : (do checkDevice x; let (ys, m) ← F; runSet m x.data x.shape.size ys raw) = .ok y) :
    x.loc = .here ∧ ∃ ys m, F = .ok (ys, m) ∧ m.InBounds x.shape.size ys.size ∧ m.WritesAll ys.size ∧
      y = ⟨ys, scatterSet m.didx m.sidx x.data m.count raw, .here⟩ := by
  obtain ⟨_, hc, h⟩ := bind_ok.mp h
  obtain ⟨⟨ys, m⟩, hF, h⟩ := bind_ok.mp h
  exact ⟨checkDevice_inv hc, ys, m, hF, runSet_inv h⟩

theorem fw_ok {α} {x : Tensor α} {F : R (Shape × Moves)} {raw : Nat → α} {ys : Shape} {m : Moves}
    (hl : x.loc = .here) (hF : F = .ok (ys, m)) (hb : m.InBounds x.shape.size ys.size) (hw : m.WritesAll ys.size) :
    (do checkDevice x; let (ys, m) ← F; runSet m x.data x.shape.size ys raw) =
      .ok ⟨ys, scatterSet m.didx m.sidx x.data m.count raw, .here⟩ := by
  simp only [checkDevice_ok hl, hF, bind, Except.bind]
  exact runSet_ok hb hw

theorem bw_inv {α} [Add α] {gy gx g : Tensor α} {F : R Moves}
    (h : (do checkDevice gy; checkDevice gx; let m ← F; runAdd m gy gx) = .ok g) :
    gy.loc = .here ∧ gx.loc = .here ∧ ∃ m, F = .ok m ∧ m.InBounds gy.shape.size gx.shape.size ∧
      g = ⟨gx.shape, scatterAdd m.didx m.sidx gy.data m.count gx.data, .here⟩ := by
  obtain ⟨_, hc, h⟩ := bind_ok.mp h
  obtain ⟨_, hc2, h⟩ := bind_ok.mp h
  obtain ⟨m, hF, h⟩ := bind_ok.mp h
  exact ⟨checkDevice_inv hc, checkDevice_inv hc2, m, hF, runAdd_inv h⟩

/-! pick and batch_pick check the `ids` the kernel will read between front-end and kernel -/

theorem pickFw_inv {α} {x y : Tensor α} {ids : List Nat} {dim : Nat} {raw : Nat → α}
    (h : pickFw x ids dim raw = .ok y) :
    x.loc = .here ∧ ∃ ys m, Front.pickFw x.shape ids dim = .ok (ys, m) ∧ m.InBounds x.shape.size ys.size ∧
      m.WritesAll ys.size ∧ y = ⟨ys, scatterSet m.didx m.sidx x.data m.count raw, .here⟩ := by
  obtain ⟨_, hc, h⟩ := bind_ok.mp h
  obtain ⟨⟨ys, m⟩, hF, h⟩ := bind_ok.mp h
  exact ⟨checkDevice_inv hc, ys, m, hF, runSet_inv (ite_ok h).2⟩

theorem pickBw_inv {α} [Add α] {gy gx g : Tensor α} {ids : List Nat} {dim : Nat}
    (h : pickBw gy ids dim gx = .ok g) :
    gy.loc = .here ∧ gx.loc = .here ∧ ∃ m, Front.pickBw gy.shape gx.shape ids dim = .ok m ∧
      m.InBounds gy.shape.size gx.shape.size ∧
      g = ⟨gx.shape, scatterAdd m.didx m.sidx gy.data m.count gx.data, .here⟩ := by
  obtain ⟨_, hc, h⟩ := bind_ok.mp h
  obtain ⟨_, hc2, h⟩ := bind_ok.mp h
  obtain ⟨m, hF, h⟩ := bind_ok.mp h
  exact ⟨checkDevice_inv hc, checkDevice_inv hc2, m, hF, runAdd_inv (ite_ok h).2⟩

theorem batchPickFw_inv {α} {x y : Tensor α} {ids : List Nat} {raw : Nat → α}
    (h : batchPickFw x ids raw = .ok y) :
    x.loc = .here ∧ ∃ ys m, Front.batchPickFw x.shape ids = .ok (ys, m) ∧ m.InBounds x.shape.size ys.size ∧
      m.WritesAll ys.size ∧ y = ⟨ys, scatterSet m.didx m.sidx x.data m.count raw, .here⟩ := by
  obtain ⟨_, hc, h⟩ := bind_ok.mp h
  obtain ⟨⟨ys, m⟩, hF, h⟩ := bind_ok.mp h
  exact ⟨checkDevice_inv hc, ys, m, hF, runSet_inv (ite_ok h).2⟩

theorem batchPickBw_inv {α} [Add α] {gy gx g : Tensor α} {ids : List Nat}
    (h : batchPickBw gy ids gx = .ok g) :
    gy.loc = .here ∧ gx.loc = .here ∧ ∃ m, Front.batchPickBw gy.shape gx.shape ids = .ok m ∧
      m.InBounds gy.shape.size gx.shape.size ∧
      g = ⟨gx.shape, scatterAdd m.didx m.sidx gy.data m.count gx.data, .here⟩ := by
  obtain ⟨_, hc, h⟩ := bind_ok.mp h
  obtain ⟨_, hc2, h⟩ := bind_ok.mp h
  obtain ⟨m, hF, h⟩ := bind_ok.mp h
  exact ⟨checkDevice_inv hc, checkDevice_inv hc2, m, hF, runAdd_inv (ite_ok h).2⟩

theorem guarded_noCrash {α β γ} (xs : List (Tensor α)) {F : R β} {k : β → R γ} (hF : NoCrash F)
    (hk : ∀ p, F = .ok p → NoCrash (k p)) : NoCrash (guarded xs (F >>= k)) := by
  induction xs with
  | nil => exact noCrash_bind hF hk
  | cons x xs ih => exact noCrash_bind (checkDevice_noCrash x) fun _ _ => ih

/-- the outcome is a thrown `primitiv::Error` -/
def Throws {γ} (r : R γ) : Prop := r = .error .error

/-! The loops of the model return or crash, they never throw: what follows the device checks
throws only if the front-end does. -/

theorem guarded_error {α γ} {xs : List (Tensor α)} {K : R γ} {e : Err} (hn : NoCrash (guarded xs K))
    (h : guarded xs K = .error e) : e = .error ∧ elsewhereOr xs (Throws K) := by
  have he : e = .error := by
    cases e with
    | error => rfl
    | crash => exact absurd h hn
  subst he
  refine ⟨rfl, ?_⟩
  induction xs with
  | nil => exact h
  | cons x xs ih =>
    by_cases hl : x.loc = .here
    · rw [guarded, checkDevice_ok hl] at h hn
      exact Or.inr (ih hn h)
    · exact Or.inl hl

theorem elsewhereOr_mono {α} {xs : List (Tensor α)} {P Q : Prop} (hPQ : P → Q) (h : elsewhereOr xs P) : elsewhereOr xs Q := by
  induction xs with
  | nil => exact hPQ h
  | cons x xs ih => exact h.imp_right ih

theorem bind_throws {β γ} {F : R β} {k : β → R γ} (hk : ∀ p, ¬ Throws (k p)) (h : Throws (F >>= k)) : Throws F := by
  cases F with
  | error e => cases h; rfl
  | ok p => exact absurd h (hk p)

theorem runSet_not_throws {α} {m : Moves} {src : Nat → α} {n : Nat} {ys : Shape} {raw : Nat → α} :
    ¬ Throws (runSet m src n ys raw) := by
  unfold runSet Throws
  split
  · nofun
  · split <;> nofun

theorem runAdd_not_throws {α} [Add α] {m : Moves} {gy gx : Tensor α} : ¬ Throws (runAdd m gy gx) := by
  unfold runAdd Throws
  split <;> nofun

theorem runReduce_not_throws {α} {r : Reduce} {x : Tensor α} {ys : Shape} {f : (Nat → α) → (Nat → Nat) → Nat → α} :
    ¬ Throws (runReduce r x ys f) := by
  unfold runReduce Throws
  split
  · nofun
  · split <;> nofun

theorem argList_not_throws {α} {r : Reduce} {x : Tensor α} {f : (Nat → α) → (Nat → Nat) → Nat → α × Nat} :
    ¬ Throws (argList r x f) := by
  unfold argList Throws
  split <;> nofun

theorem crash_else_not_throws {γ} {c : Prop} [Decidable c] {r : R γ} (hr : ¬ Throws r) :
    ¬ Throws (if c then crash else r) := by
  split
  · nofun
  · exact hr

theorem guarded_fail {α β γ} {xs : List (Tensor α)} {F : R β} {k : β → R γ} {e : Err}
    (hn : NoCrash (guarded xs (F >>= k))) (hk : ∀ p, ¬ Throws (k p)) (h : guarded xs (F >>= k) = .error e) :
    e = .error ∧ elsewhereOr xs (F = .error .error) :=
  ⟨(guarded_error hn h).1, elsewhereOr_mono (bind_throws hk) (guarded_error hn h).2⟩

theorem arg_view {α} {x : Tensor α} {dim : Nat} {f : (Nat → α) → (Nat → Nat) → Nat → α × Nat} {l : List Nat}
    (hx : WF x.shape) (h : guarded [x] (argList (Front.argReduce x.shape dim) x f) = .ok l) :
    l.length = lo x.shape dim * (up x.shape dim * x.shape.batch) ∧
    ∀ a c b, a < lo x.shape dim → c < up x.shape dim → b < x.shape.batch →
      l.getD (a + lo x.shape dim * (c + up x.shape dim * b)) 0 =
        (f x.data (fun k => comp3 (lo x.shape dim) (x.shape.get dim) a k (c + up x.shape dim * b))
          (x.shape.get dim - 1)).2 := by
  obtain ⟨_, h⟩ := guarded_ok.mp h
  unfold argList at h
  split at h
  · cases h
  cases h
  rw [(Front.argReduce_plan hx dim).1]
  simp only [axisReduce, List.length_map, List.length_range, true_and]
  intro a c b ha hc hb
  rw [List.getD_eq_getElem?_getD, List.getElem?_map, List.getElem?_range (lt_mul_of_lt ha (lt_mul_of_lt hc hb))]
  simp only [Option.map_some, Option.getD_some]
  congr 2
  funext k
  exact axisOff_at ha

theorem checkAll_ok {α} {xs : List (Tensor α)} {u : Unit} : checkAll xs = .ok u ↔ ∀ x ∈ xs, x.loc = .here := by
  induction xs with
  | nil => exact ⟨fun _ _ hx => (nomatch hx), fun _ => rfl⟩
  | cons x xs ih =>
    rw [checkAll, bind_ok, List.forall_mem_cons, ← ih]
    exact ⟨fun ⟨_, hu, h⟩ => ⟨checkDevice_inv hu, h⟩, fun ⟨hl, h⟩ => ⟨(), checkDevice_ok hl, h⟩⟩

theorem wf_shapes {α} {xs : List (Tensor α)} (hxs : ∀ x ∈ xs, WF x.shape) : ∀ s ∈ xs.map (·.shape), WF s := by
  intro s hs
  obtain ⟨x, hx, rfl⟩ := List.mem_map.mp hs
  exact hxs x hx

/-- the common form of `concatFw` and `batchConcatFw` -/
def runMany {α} (xs : List (Tensor α)) (F : R (Shape × List Moves)) (raw : Nat → α) : R (Tensor α) :=
  if xs.isEmpty then Primitiv.throwError
  else do
    checkAll xs
    let (ys, ms) ← F
    let d ← runSetMany ys (ms.zip xs) raw
    if !manyCover ms ys.size then crash else pure ⟨ys, d, .here⟩

theorem runMany_inv {α} {xs : List (Tensor α)} {F : R (Shape × List Moves)} {raw : Nat → α} {y : Tensor α}
    (h : runMany xs F raw = .ok y) :
    (∀ x ∈ xs, x.loc = .here) ∧ ∃ ys ms d, F = .ok (ys, ms) ∧ runSetMany ys (ms.zip xs) raw = .ok d ∧ y = ⟨ys, d, .here⟩ := by
  unfold runMany at h
  split at h
  · cases h
  obtain ⟨u, hc, h⟩ := bind_ok.mp h
  obtain ⟨⟨ys, ms⟩, hF, h⟩ := bind_ok.mp h
  obtain ⟨d, hR, h⟩ := bind_ok.mp h
  split at h
  · cases h
  · cases h; exact ⟨checkAll_ok.mp hc, ys, ms, d, hF, hR, rfl⟩

theorem runMany_value {α} {ys : Shape} {ms : List Moves} {xs : List (Tensor α)} {raw d : Nat → α}
    (hR : runSetMany ys (ms.zip xs) raw = .ok d) {p : Nat} (hp : p < ms.length) (hp' : p < xs.length) {t : Nat}
    (ht : t < ms[p].count)
    (hone : ∀ p' (_ : p' < ms.length) t', p ≤ p' → t' < ms[p'].count → ms[p'].didx t' = ms[p].didx t → p' = p ∧ t' = t) :
    d (ms[p].didx t) = xs[p].data (ms[p].sidx t) := by
  have hz : p < (ms.zip xs).length := by rw [List.length_zip]; omega
  have key := runSetMany_at _ hR p hz t (by simpa only [List.getElem_zip] using ht)
    (by
      intro t' h1 h2 e
      simp only [List.getElem_zip] at h2 e
      have := (hone p hp t' (Nat.le_refl _) h2 e).2
      omega)
    (by
      intro p' hp'' hlt t' ht' e
      simp only [List.getElem_zip] at ht' e
      have := (hone p' (by rw [List.length_zip] at hp''; omega) t' (Nat.le_of_lt hlt) ht' e).1
      omega)
  simpa only [List.getElem_zip] using key

theorem runMany_noCrash {α} {xs : List (Tensor α)} {F : R (Shape × List Moves)} (raw : Nat → α) (hF : NoCrash F)
    (hk : ∀ ys ms, F = .ok (ys, ms) → ms.length = (xs.map Tensor.shape).length ∧
      (∀ p (hp : p < (xs.map Tensor.shape).length) (hp' : p < ms.length), ms[p].InBounds (xs.map Tensor.shape)[p].size ys.size) ∧
      (∀ o, o < ys.size → ∃ p, ∃ hp : p < ms.length, ∃ t, t < ms[p].count ∧ ms[p].didx t = o)) :
    NoCrash (runMany xs F raw) := by
  refine noCrash_ite (fun _ => noCrash_throw) fun _ => noCrash_bind (checkAll_noCrash xs) fun _ _ =>
    noCrash_bind hF fun ⟨ys, ms⟩ hp => ?_
  obtain ⟨hlen, hb, hall⟩ := hk ys ms hp
  rw [List.length_map] at hlen
  have hbz : ∀ e ∈ ms.zip xs, e.1.InBounds e.2.shape.size ys.size := by
    intro e he
    obtain ⟨q, hq, rfl⟩ := List.getElem_of_mem he
    rw [List.length_zip, hlen, Nat.min_self] at hq
    rw [List.getElem_zip]
    have := hb q (by rw [List.length_map]; exact hq) (by omega)
    rwa [List.getElem_map] at this
  obtain ⟨d, hd⟩ := runSetMany_ok (ms.zip xs) raw hbz
  have hc : manyCover ms ys.size = true :=
    manyCover_iff.mpr fun o ho => have ⟨p, hp, t, ht, e⟩ := hall o ho; ⟨ms[p], List.getElem_mem hp, t, ht, e⟩
  show NoCrash (runSetMany ys (ms.zip xs) raw >>= _)
  rw [hd]
  show NoCrash (if !manyCover ms ys.size then _ else _)
  rw [hc]
  exact noCrash_pure _

end Primitiv.Move
