import PrimitivModel.Model.Pool
/-
The MemoryPool model (Model/Pool.lean).  `calculateShifts x` is the least `s` with `x ≤ 2^s`, and
past it `allocate` depends on the size through the size class only (`allocAt`).  The blocks of the
pools, each with its size class, agree with the call log (`LInv`); `allocate`, `free` and the
destructor keep that, and with the ties between ids, handles and pools it makes the invariant
`WInv` of every history.  Core Lean only.
-/
namespace Primitiv.Pool

/- A bounded ∀: `decide` has the kernel run `popcount64` on the 65 literals `2^n - 1`. -/
theorem popcount64_ones : ∀ n, n ≤ 64 → popcount64 (2 ^ n - 1) = n := by decide

theorem mod_two_mul {d k : Nat} (h : d % k = 0) : d % (2 * k) = 0 ∨ (k ≤ d ∧ (d - k) % (2 * k) = 0) := by
  have e : d % (k * 2) = k * (d / k % 2) := by rw [Nat.mod_mul, h, Nat.zero_add]
  rw [Nat.mul_comm 2 k]
  rcases Nat.mod_two_eq_zero_or_one (d / k) with h2 | h2
  · left; rw [e, h2, Nat.mul_zero]
  · right
    rw [h2, Nat.mul_one] at e
    have hd := Nat.mod_add_div d (k * 2)
    rw [e] at hd
    refine ⟨by omega, ?_⟩
    rw [← hd, Nat.add_sub_cancel_left, Nat.mul_mod_right]

/-- One smearing step doubles the set of offsets at which a set bit of `x` is seen. -/
theorem smear_step (x b k : Nat)
    (h : ∀ i d, d < 64 → d % (2 * k) = 0 → x.testBit (i + d) = true → b.testBit i = true) :
    ∀ i d, d < 64 → d % k = 0 → x.testBit (i + d) = true → (b ||| (b >>> k)).testBit i = true := by
  intro i d hd hm hx
  rw [Nat.testBit_or, Nat.testBit_shiftRight]
  rcases mod_two_mul hm with h1 | ⟨h1, h2⟩
  · simp [h i d hd h1 hx]
  · have := h (k + i) (d - k) (by omega) h2 (by rw [show k + i + (d - k) = i + d by omega]; exact hx)
    simp [this]

theorem smear_bits (x : Nat) : ∀ i d, d < 64 → x.testBit (i + d) = true → (smear x).testBit i = true := by
  intro i d hd hx
  have h0 : ∀ i d, d < 64 → d % (2 * 32) = 0 → x.testBit (i + d) = true → x.testBit i = true := by
    intro i d hd hm hx; have : d = 0 := by omega
    simpa [this] using hx
  exact smear_step x _ 1 (smear_step x _ 2 (smear_step x _ 4 (smear_step x _ 8 (smear_step x _ 16
    (smear_step x _ 32 h0))))) i d hd (Nat.mod_one d) hx

theorem smear_lt (x n : Nat) (h : x < 2 ^ n) : smear x < 2 ^ n := by
  unfold smear
  have step : ∀ b k, b < 2 ^ n → (b ||| (b >>> k)) < 2 ^ n := fun b k hb =>
    Nat.or_lt_two_pow hb (Nat.lt_of_le_of_lt (Nat.shiftRight_le b k) hb)
  exact step _ _ (step _ _ (step _ _ (step _ _ (step _ _ (step _ _ h)))))

theorem smear_eq (x : Nat) (h0 : x ≠ 0) (h : x < 2 ^ 64) : smear x = 2 ^ (x.log2 + 1) - 1 := by
  apply Nat.eq_of_testBit_eq
  intro i
  rw [Nat.testBit_two_pow_sub_one]
  by_cases hi : i < x.log2 + 1
  · have hl := (Nat.log2_lt h0).2 h
    have := smear_bits x i (x.log2 - i) (by omega)
      (by rw [show i + (x.log2 - i) = x.log2 by omega]; exact Nat.testBit_log2 h0)
    simp [this, hi]
  · have h1 : smear x < 2 ^ i := by
      apply Nat.lt_of_lt_of_le (smear_lt x _ Nat.lt_log2_self)
      exact Nat.pow_le_pow_right (by decide) (by omega)
    simp [Nat.testBit_lt_two_pow h1, hi]

theorem calculateShifts_eq (x : Nat) (h0 : x ≠ 0) (h : x < 2 ^ 64) :
    calculateShifts x = if 2 ^ x.log2 = x then x.log2 else x.log2 + 1 := by
  have hl := (Nat.log2_lt h0).2 h
  unfold calculateShifts
  simp only [h0, if_false, smear_eq x h0 h, popcount64_ones (x.log2 + 1) (by omega)]
  simp only [Nat.add_sub_cancel, Nat.one_shiftLeft]
  have : 2 ^ x.log2 % M64 = 2 ^ x.log2 := Nat.mod_eq_of_lt (by
    show 2 ^ x.log2 < 2 ^ 64
    exact Nat.pow_lt_pow_right (by decide) hl)
  rw [this]
  split <;> omega

theorem calculateShifts_le_iff (x : Nat) (h0 : x ≠ 0) (h : x < 2 ^ 64) (t : Nat) :
    calculateShifts x ≤ t ↔ x ≤ 2 ^ t := by
  rw [calculateShifts_eq x h0 h]
  have h1 := Nat.log2_self_le h0
  have h2 := @Nat.lt_log2_self x
  split
  · rename_i he
    rw [← Nat.pow_le_pow_iff_right (a := 2) (by decide), he]
  · constructor
    · intro hl
      exact Nat.le_trans (Nat.le_of_lt h2) (Nat.pow_le_pow_right (by decide) hl)
    · intro hx
      exact (Nat.pow_lt_pow_iff_right (a := 2) (by decide)).1 (by omega)

/-- The guard `shift > MAX_SHIFTS` rejects exactly the sizes above 2^63. -/
theorem calculateShifts_gt_63 (x : Nat) (h0 : x ≠ 0) (h : x < 2 ^ 64) :
    calculateShifts x > 63 ↔ x > 2 ^ 63 := by
  have := calculateShifts_le_iff x h0 h 63
  omega

theorem mem_flat {r : Fin 64 → List Ptr} {x : Ptr} : x ∈ flat r ↔ ∃ k, x ∈ r k := by
  simp [flat, List.mem_flatMap, List.mem_finRange]

theorem setClass_same (r : Fin 64 → List Ptr) (k : Fin 64) (v : List Ptr) : setClass r k v k = v := by
  simp [setClass]

def flatT (r : Fin 64 → List Ptr) : List (Ptr × Fin 64) := (List.finRange 64).flatMap fun k => (r k).map (·, k)

theorem mem_flatT {r : Fin 64 → List Ptr} {x : Ptr} {k : Fin 64} : (x, k) ∈ flatT r ↔ x ∈ r k := by
  simp only [flatT, List.mem_flatMap, List.mem_map, Prod.mk.injEq, List.mem_finRange, true_and]
  exact ⟨fun ⟨_, _, h, rfl, rfl⟩ => h, fun h => ⟨k, x, h, rfl, rfl⟩⟩

theorem flatT_fst (r : Fin 64 → List Ptr) : (flatT r).map (·.1) = flat r := by
  simp [flatT, flat, List.map_flatMap, Function.comp_def]

theorem flatT_nil : flatT (fun _ => []) = [] := by
  simp [flatT]

theorem flatT_setClass (r : Fin 64 → List Ptr) (k : Fin 64) :
    ∃ A B, flatT r = A ++ ((r k).map (·, k) ++ B) ∧ ∀ v, flatT (setClass r k v) = A ++ (v.map (·, k) ++ B) := by
  obtain ⟨s, t, e⟩ := List.append_of_mem (List.mem_finRange k)
  have hn := List.nodup_finRange 64
  rw [e] at hn
  have same : ∀ l : List (Fin 64), k ∉ l → ∀ v,
      l.flatMap (fun j => (setClass r k v j).map (·, j)) = l.flatMap fun j => (r j).map (·, j) := by
    intro l hl v
    simp only [List.flatMap_def]
    congr 1
    apply List.map_congr_left
    intro j hj
    rw [setClass, if_neg (fun e : j = k => hl (e ▸ hj))]
  have hs : k ∉ s := fun h => (List.nodup_append.1 hn).2.2 k h k (List.mem_cons_self ..) rfl
  have ht : k ∉ t := (List.nodup_cons.1 (List.nodup_append.1 hn).2.1).1
  refine ⟨s.flatMap fun j => (r j).map (·, j), t.flatMap fun j => (r j).map (·, j), ?_, fun v => ?_⟩
  · rw [flatT, e, List.flatMap_append, List.flatMap_cons]
  · rw [flatT, e, List.flatMap_append, List.flatMap_cons, same s hs, same t ht, setClass_same]

theorem flatT_pop {r : Fin 64 → List Ptr} {k : Fin 64} {x : Ptr} {rest : List Ptr} (hk : r k = x :: rest) :
    (flatT r).Perm ((x, k) :: flatT (setClass r k rest)) := by
  obtain ⟨A, B, h0, h⟩ := flatT_setClass r k
  rw [h0, h, hk]
  exact List.perm_middle

theorem flatT_push (r : Fin 64 → List Ptr) (k : Fin 64) (x : Ptr) :
    (flatT (setClass r k (x :: r k))).Perm ((x, k) :: flatT r) := by
  obtain ⟨A, B, h0, h⟩ := flatT_setClass r k
  rw [h0, h]
  exact List.perm_middle

def Log.wf : Log → Prop
  | [] => True
  | .alloc _ (some p) :: l => p ∉ outstanding l ∧ Log.wf l
  | .alloc _ none :: l => Log.wf l
  | .del p :: l => p ∈ outstanding l ∧ Log.wf l

theorem wf_nodup : ∀ {log : Log}, Log.wf log → (outstanding log).Nodup := by
  intro log
  induction log with
  | nil => intro _; simp [outstanding]
  | cons e l ih =>
    intro h
    cases e with
    | alloc s res =>
      cases res with
      | none => exact ih h
      | some p => exact List.nodup_cons.2 ⟨h.1, ih h.2⟩
    | del p => exact (ih h.2).erase p

/-- the deleter calls of `release_reserved_blocks` for the free blocks `F`, newest first -/
def relLog (F : List Ptr) (log : Log) : Log := (F.map Event.del).reverse ++ log

theorem relLog_cons (f : Ptr) (F : List Ptr) (log : Log) : relLog (f :: F) log = relLog F (.del f :: log) := by
  simp [relLog]

def allocCount (p : Ptr) : Log → Nat
  | [] => 0
  | .alloc _ (some q) :: l => (if q = p then 1 else 0) + allocCount p l
  | .alloc _ none :: l => allocCount p l
  | .del _ :: l => allocCount p l

def delCount (p : Ptr) : Log → Nat
  | [] => 0
  | .alloc _ _ :: l => delCount p l
  | .del q :: l => (if q = p then 1 else 0) + delCount p l

theorem wf_count (p : Ptr) : ∀ {log : Log}, Log.wf log →
    allocCount p log = delCount p log + (outstanding log).count p := by
  intro log
  induction log with
  | nil => intro _; rfl
  | cons e l ih =>
    intro hw
    cases e with
    | alloc s res =>
      cases res with
      | none => exact ih hw
      | some q =>
        have := ih hw.2
        simp only [allocCount, delCount, outstanding, List.count_cons]
        by_cases hq : q = p <;> simp [hq] <;> omega
    | del q =>
      have := ih hw.2
      simp only [allocCount, delCount, outstanding]
      by_cases hq : q = p
      · subst hq
        have hpos : 0 < (outstanding l).count q := List.count_pos_iff.2 hw.1
        rw [List.count_erase_self]
        simp; omega
      · rw [List.count_erase_of_ne (Ne.symm hq)]
        simp [hq]; omega

def dels : Log → List Ptr
  | [] => []
  | .del p :: l => p :: dels l
  | .alloc _ _ :: l => dels l

theorem dels_append (a b : Log) : dels (a ++ b) = dels a ++ dels b := by
  induction a with
  | nil => rfl
  | cons e a ih => cases e <;> simp [dels, ih]

theorem dels_map_del (F : List Ptr) : dels ((F.map Event.del).reverse) = F.reverse := by
  induction F with
  | nil => rfl
  | cons f F ih => simp [dels_append, ih, dels]

def Event.isAlloc : Event → Bool
  | .alloc _ _ => true
  | .del _ => false

theorem filter_isAlloc_dels (F : List Ptr) : ((F.map Event.del).reverse).filter Event.isAlloc = [] := by
  apply List.filter_eq_nil_iff.2
  intro e he
  rcases List.mem_map.1 (List.mem_reverse.1 he) with ⟨p, _, rfl⟩
  simp [Event.isAlloc]

/-- `allocate` once the size class `k` is known -/
def allocAt (ora : Oracle) (P : MPool) (log : Log) (k : Fin 64) : MPool × Log × MPool.AllocRes :=
  match P.reserved k with
  | [] =>
    match ora log (2 ^ k.val) with
    | some ptr =>
      ({ P with supplied := MPool.emplace P.supplied ptr k }, .alloc (2 ^ k.val) (some ptr) :: log,
        .block ptr (2 ^ k.val))
    | none =>
      match ora (relLog (flat P.reserved) (.alloc (2 ^ k.val) none :: log)) (2 ^ k.val) with
      | some ptr =>
        ({ P with reserved := fun _ => [], supplied := MPool.emplace P.supplied ptr k },
          .alloc (2 ^ k.val) (some ptr) :: relLog (flat P.reserved) (.alloc (2 ^ k.val) none :: log),
          .block ptr (2 ^ k.val))
      | none =>
        ({ P with reserved := fun _ => [] },
          .alloc (2 ^ k.val) none :: relLog (flat P.reserved) (.alloc (2 ^ k.val) none :: log), .error)
  | ptr :: rest =>
    ({ P with reserved := setClass P.reserved k rest, supplied := MPool.emplace P.supplied ptr k }, log,
      .block ptr (2 ^ k.val))

theorem allocate_null (ora : Oracle) (P : MPool) (log : Log) : P.allocate ora log 0 = (P, log, .null) := by
  simp [MPool.allocate]

theorem minSize_raise (P : MPool) (size : Nat) :
    (if size < P.minSize then P.minSize else size) = max size P.minSize := by
  split <;> omega

theorem allocate_tooBig (ora : Oracle) (P : MPool) (log : Log) (size : Nat) (h0 : size ≠ 0)
    (h : calculateShifts (max size P.minSize) > 63) : P.allocate ora log size = (P, log, .error) := by
  simp [MPool.allocate, h0, minSize_raise, h]

theorem allocate_eq (ora : Oracle) (P : MPool) (log : Log) (size : Nat) (h0 : size ≠ 0) (k : Fin 64)
    (hk : k.val = calculateShifts (max size P.minSize)) : P.allocate ora log size = allocAt ora P log k := by
  have hs : ¬ calculateShifts (max size P.minSize) > 63 := by have := k.isLt; omega
  have hm : (1 <<< calculateShifts (max size P.minSize)) % M64 = 2 ^ k.val := by
    rw [← hk, Nat.one_shiftLeft]
    exact Nat.mod_eq_of_lt (Nat.pow_lt_pow_right (by decide) k.isLt)
  have hkk : (⟨calculateShifts (max size P.minSize), by omega⟩ : Fin 64) = k := Fin.ext hk.symm
  unfold MPool.allocate allocAt
  simp only [h0, if_false, minSize_raise, hs, dite_false, hm, hkk]
  rfl

theorem allocate_cases (ora : Oracle) (P : MPool) (log : Log) (size : Nat) :
    P.allocate ora log size = (P, log, .null) ∨ P.allocate ora log size = (P, log, .error) ∨
    ∃ k : Fin 64, k.val = calculateShifts (max size P.minSize) ∧ size ≠ 0 ∧
      P.allocate ora log size = allocAt ora P log k := by
  by_cases h0 : size = 0
  · exact .inl (h0 ▸ allocate_null ora P log)
  · by_cases hs : calculateShifts (max size P.minSize) > 63
    · exact .inr (.inl (allocate_tooBig ora P log size h0 hs))
    · exact .inr (.inr ⟨⟨calculateShifts (max size P.minSize), by omega⟩, rfl, h0, allocate_eq ora P log size h0 _ rfl⟩)

theorem allocate_id (ora : Oracle) (P : MPool) (log : Log) (size : Nat) : (P.allocate ora log size).1.id = P.id := by
  rcases allocate_cases ora P log size with e | e | ⟨k, _, _, e⟩ <;> rw [e]
  unfold allocAt
  split
  · split
    · rfl
    · split <;> rfl
  · rfl

theorem allocate_block_size (ora : Oracle) (P : MPool) (log : Log) (size : Nat) (ptr : Ptr) (m : Nat)
    (hr : (P.allocate ora log size).2.2 = .block ptr m) :
    ∃ k : Fin 64, k.val = calculateShifts (max size P.minSize) ∧ m = 2 ^ k.val := by
  rcases allocate_cases ora P log size with e | e | ⟨k, hk, _, e⟩ <;> rw [e] at hr
  · cases hr
  · cases hr
  · refine ⟨k, hk, ?_⟩
    unfold allocAt at hr
    split at hr
    · split at hr
      · cases hr; rfl
      · split at hr
        · cases hr; rfl
        · cases hr
    · cases hr; rfl

/-- The calls `allocate` adds to the log when the allocator failed at first. -/
theorem retry_events (F : List Ptr) (m : Nat) (a : Option Ptr) (log : Log) :
    ∃ evs, .alloc m a :: relLog F (.alloc m none :: log) = evs ++ log ∧ (∀ x ∈ dels evs, x ∈ F) ∧
      (evs.filter Event.isAlloc).length ≤ 2 := by
  refine ⟨.alloc m a :: ((F.map Event.del).reverse ++ [.alloc m none]), by simp [relLog], fun x hx => ?_, ?_⟩
  · simp only [dels, dels_append, dels_map_del, List.append_nil] at hx
    exact List.mem_reverse.1 hx
  · rw [List.filter_cons, List.filter_append, filter_isAlloc_dels]; simp [List.filter, Event.isAlloc]

theorem allocate_events (ora : Oracle) (P : MPool) (log : Log) (size : Nat) :
    ∃ evs, (P.allocate ora log size).2.1 = evs ++ log ∧ (∀ x ∈ dels evs, x ∈ flat P.reserved) ∧
      (evs.filter Event.isAlloc).length ≤ 2 := by
  have none : ∃ evs, log = evs ++ log ∧ (∀ x ∈ dels evs, x ∈ flat P.reserved) ∧
      (evs.filter Event.isAlloc).length ≤ 2 := ⟨[], rfl, fun _ h => (nomatch h), by simp⟩
  rcases allocate_cases ora P log size with e | e | ⟨k, _, _, e⟩ <;> rw [e]
  · exact none
  · exact none
  · unfold allocAt
    split
    · split
      · exact ⟨[.alloc (2 ^ k.val) (some _)], rfl, fun _ h => (nomatch h), by simp [List.filter, Event.isAlloc]⟩
      · split <;> exact retry_events ..
    · exact none

/-- the blocks `T`, each with its size class, agree with the call log -/
structure LInv (T : List (Ptr × Fin 64)) (log : Log) : Prop where
  wf : Log.wf log
  perm : (T.map (·.1)).Perm (outstanding log)
  sizes : ∀ x k, (x, k) ∈ T → allocSize log x = some (2 ^ k.val)

section
variable {T T' : List (Ptr × Fin 64)} {log : Log}

theorem LInv.nodup (h : LInv T log) : (T.map (·.1)).Nodup := h.perm.symm.nodup (wf_nodup h.wf)

theorem LInv.of_perm (h : LInv T log) (p : T'.Perm T) : LInv T' log :=
  ⟨h.wf, (p.map _).trans h.perm, fun x k hx => h.sizes x k (p.subset hx)⟩

theorem LInv.alloc {p : Ptr} (h : LInv T log) (hp : p ∉ outstanding log) (k : Fin 64) :
    LInv ((p, k) :: T) (.alloc (2 ^ k.val) (some p) :: log) :=
  ⟨⟨hp, h.wf⟩, h.perm.cons p, fun x j hx => by
    rcases List.mem_cons.1 hx with e | hx
    · cases e; exact if_pos rfl
    · exact (if_neg fun e : p = x => hp (e ▸ h.perm.subset (List.mem_map_of_mem hx))).trans (h.sizes x j hx)⟩

theorem LInv.allocFail (h : LInv T log) (m : Nat) : LInv T (.alloc m none :: log) := ⟨h.wf, h.perm, h.sizes⟩

theorem LInv.release : ∀ (F : List (Ptr × Fin 64)) {log : Log}, LInv (F ++ T) log → LInv T (relLog (F.map (·.1)) log)
  | [], _, h => h
  | f :: F, log, h => by
    rw [List.map_cons, relLog_cons]
    exact LInv.release F ⟨⟨h.perm.subset (List.mem_cons_self ..), h.wf⟩, by simpa [outstanding] using h.perm.erase f.1,
      fun x k hx => h.sizes x k (List.mem_cons_of_mem _ hx)⟩

end

def MPool.tagged (P : MPool) : List (Ptr × Fin 64) := flatT P.reserved ++ P.supplied

theorem tagged_fst (P : MPool) : P.tagged.map (·.1) = P.owned := by
  simp [MPool.tagged, MPool.owned, MPool.keys, flatT_fst]

def SizesOk (P : MPool) (log : Log) : Prop :=
  (∀ k x, x ∈ P.reserved k → allocSize log x = some (2 ^ k.val)) ∧
  (∀ x k, (x, k) ∈ P.supplied → allocSize log x = some (2 ^ k.val))

theorem sizesOk_iff {P : MPool} {log : Log} :
    SizesOk P log ↔ ∀ x k, (x, k) ∈ P.tagged → allocSize log x = some (2 ^ k.val) := by
  simp only [SizesOk, MPool.tagged, List.mem_append, mem_flatT, or_imp, forall_and]
  exact ⟨fun ⟨a, b⟩ => ⟨fun x k => a k x, b⟩, fun ⟨a, b⟩ => ⟨fun k x => a x k, b⟩⟩

theorem emplace_of_not_mem (s : List (Ptr × Fin 64)) (p : Ptr) (k : Fin 64) (h : p ∉ s.map (·.1)) :
    MPool.emplace s p k = (p, k) :: s := by
  refine if_neg fun ha => ?_
  obtain ⟨e, he, hpe⟩ := List.any_eq_true.1 ha
  exact h (List.mem_map.2 ⟨e, he, by simpa using hpe⟩)

section
/- `O` stands for the blocks of the other pools. -/
variable {P : MPool} {O : List (Ptr × Fin 64)} {log : Log} {k : Fin 64} {ptr : Ptr}

/-- `supplied_.emplace(ptr, k)`: the key is new, since no pool holds the outstanding block `ptr` -/
theorem LInv.supply (h : LInv ((ptr, k) :: (P.tagged ++ O)) log) :
    MPool.emplace P.supplied ptr k = (ptr, k) :: P.supplied ∧
    LInv (MPool.tagged { P with supplied := MPool.emplace P.supplied ptr k } ++ O) log := by
  have he : MPool.emplace P.supplied ptr k = (ptr, k) :: P.supplied :=
    emplace_of_not_mem _ _ _ fun hk => (List.nodup_cons.1 h.nodup).1 (by
      rw [List.map_append, tagged_fst]
      exact List.mem_append_left _ (List.mem_append_right _ hk))
  rw [he]
  exact ⟨rfl, h.of_perm (List.perm_middle.append_right O)⟩

theorem LInv.releaseReserved (h : LInv (P.tagged ++ O) log) :
    LInv (MPool.tagged { P with reserved := fun _ => [] } ++ O) (relLog (flat P.reserved) log) := by
  rw [← flatT_fst]
  exact LInv.release _ (h.of_perm (.of_eq (by simp [MPool.tagged, flatT_nil])))

def SuppliedAfter (P P' : MPool) : MPool.AllocRes → Prop
  | .block ptr m => ∃ k : Fin 64, m = 2 ^ k.val ∧ P'.supplied = (ptr, k) :: P.supplied
  | _ => P'.supplied = P.supplied

theorem LInv.allocAt {ora : Oracle} (h : LInv (P.tagged ++ O) log) (hf : ora.Fresh) {P' : MPool} {log' : Log}
    {r : MPool.AllocRes} (e : allocAt ora P log k = (P', log', r)) :
    LInv (P'.tagged ++ O) log' ∧ SuppliedAfter P P' r := by
  -- in here plain `allocAt` is this theorem
  unfold Primitiv.Pool.allocAt at e
  split at e
  · split at e
    · rename_i ho
      cases e
      obtain ⟨he, h2⟩ := (h.alloc (hf _ _ _ ho) k).supply
      exact ⟨h2, k, rfl, he⟩
    · have h1 := (h.allocFail (2 ^ k.val)).releaseReserved
      split at e
      · rename_i ho
        cases e
        obtain ⟨he, h2⟩ := (h1.alloc (hf _ _ _ ho) k).supply
        exact ⟨h2, k, rfl, he⟩
      · cases e
        exact ⟨h1.allocFail _, rfl⟩
  · rename_i ptr rest hr
    cases e
    obtain ⟨he, h2⟩ := LInv.supply (P := { P with reserved := setClass P.reserved k rest })
      (h.of_perm (((flatT_pop hr).append_right _).append_right O).symm)
    exact ⟨h2, k, rfl, he⟩

theorem LInv.allocate {ora : Oracle} (h : LInv (P.tagged ++ O) log) (hf : ora.Fresh) {size : Nat} {P' : MPool}
    {log' : Log} {r : MPool.AllocRes} (e : P.allocate ora log size = (P', log', r)) :
    LInv (P'.tagged ++ O) log' ∧ SuppliedAfter P P' r := by
  rcases allocate_cases ora P log size with e' | e' | ⟨k, _, _, e'⟩
  · cases e'.symm.trans e; exact ⟨h, rfl⟩
  · cases e'.symm.trans e; exact ⟨h, rfl⟩
  · exact h.allocAt hf (e'.symm.trans e)

end

theorem free_some {P P' : MPool} {ptr : Ptr} (h : P.free ptr = some P') :
    ∃ k, P.supplied.Perm ((ptr, k) :: P.supplied.eraseP (·.1 == ptr)) ∧
      P' = { P with reserved := setClass P.reserved k (ptr :: P.reserved k),
                    supplied := P.supplied.eraseP (·.1 == ptr) } := by
  unfold MPool.free at h
  split at h
  · cases h
  · rename_i x k hf
    obtain ⟨hx, as, bs, e, has⟩ := List.find?_eq_some_iff_append.1 hf
    have hx : x = ptr := by simpa using hx
    subst hx
    refine ⟨k, ?_, (Option.some.inj h).symm⟩
    rw [e, List.eraseP_append_right _ (by simpa using has), List.eraseP_cons_of_pos (by simp)]
    exact List.perm_middle

theorem free_of_mem {P : MPool} {ptr : Ptr} (h : ptr ∈ P.keys) : ∃ P', P.free ptr = some P' := by
  unfold MPool.free
  cases hf : P.supplied.find? (·.1 == ptr) with
  | none =>
    rcases List.mem_map.1 h with ⟨e, he, hpe⟩
    simpa [hpe] using List.find?_eq_none.1 hf e he
  | some e => exact ⟨_, rfl⟩

theorem tagged_free {P P' : MPool} {ptr : Ptr} (h : P.free ptr = some P') : P'.tagged.Perm P.tagged := by
  obtain ⟨k, hs, rfl⟩ := free_some h
  exact ((flatT_push P.reserved k ptr).append_right _).trans (List.perm_middle.symm.trans (hs.symm.append_left _))

theorem keys_free {P P' : MPool} {ptr : Ptr} (h : P.free ptr = some P') : P.keys.Perm (ptr :: P'.keys) := by
  obtain ⟨k, hs, rfl⟩ := free_some h
  exact hs.map _

theorem free_id {P P' : MPool} {ptr : Ptr} (h : P.free ptr = some P') : P'.id = P.id := by
  obtain ⟨k, _, rfl⟩ := free_some h
  rfl

theorem flatT_drain (s : List (Ptr × Fin 64)) : ∀ r : Fin 64 → List Ptr, (flatT (MPool.drain r s)).Perm (s ++ flatT r) := by
  induction s with
  | nil =>
    intro r
    -- `Perm.refl` would have the kernel unfold `flatT` over all 64 classes to see that both sides agree
    rw [MPool.drain, List.nil_append]
  | cons e s ih =>
    intro r
    exact (ih _).trans ((List.Perm.append_left _ (flatT_push r e.2 e.1)).trans List.perm_middle)

/-- After its first loop the destructor finds exactly the blocks of the pool in the free lists. -/
theorem flatT_drain_tagged (P : MPool) : (flatT (MPool.drain P.reserved P.supplied)).Perm P.tagged :=
  (flatT_drain P.supplied P.reserved).trans List.perm_append_comm

theorem find_split {α : Type} (key : α → Nat) (pid : Nat) (l : List α) (P : α) (hn : (l.map key).Nodup)
    (hf : l.find? (key · == pid) = some P) : l.Perm (P :: l.filter (key · != pid)) := by
  obtain ⟨hP, as, bs, rfl, has⟩ := List.find?_eq_some_iff_append.1 hf
  have hkey : key P = pid := by simpa using hP
  rw [List.map_append, List.map_cons] at hn
  have hbs : ∀ b ∈ bs, (key b != pid) = true := fun b hb => by
    have := (List.nodup_cons.1 (List.nodup_append.1 hn).2.1).1
    have : key b ≠ key P := fun e => this (List.mem_map.2 ⟨b, hb, e⟩)
    simpa [hkey] using this
  have has' : ∀ a ∈ as, (key a != pid) = true := fun a ha => by simpa using has a ha
  rw [List.filter_append, List.filter_cons_of_neg (by simp [hkey]), List.filter_eq_self.2 has',
    List.filter_eq_self.2 hbs]
  exact List.perm_middle

theorem find_of_mem {α : Type} (key : α → Nat) (l : List α) (a : α) (hn : (l.map key).Nodup) (ha : a ∈ l) :
    l.find? (key · == key a) = some a := by
  obtain ⟨as, bs, rfl⟩ := List.append_of_mem ha
  rw [List.map_append, List.map_cons] at hn
  refine List.find?_eq_some_iff_append.2 ⟨by simp, as, bs, rfl, fun x hx => ?_⟩
  have : key x ≠ key a := fun e =>
    (List.nodup_append.1 hn).2.2 (key x) (List.mem_map.2 ⟨x, hx, rfl⟩) (key a) (List.mem_cons_self ..) e
  simpa using this

theorem findPool_id {w : World} {pid : Nat} {P : MPool} (h : w.findPool pid = some P) : P.id = pid := by
  simpa using List.find?_some h

theorem findPool_mem {w : World} {pid : Nat} {P : MPool} (h : w.findPool pid = some P) : P ∈ w.pools :=
  List.mem_of_find?_eq_some h

theorem findPool_none {w : World} {pid : Nat} (h : w.findPool pid = none) {Q : MPool} (hQ : Q ∈ w.pools) :
    Q.id ≠ pid := by
  simpa using List.find?_eq_none.1 h Q hQ

theorem mem_others {w : World} {pid : Nat} {Q : MPool} : Q ∈ w.others pid ↔ Q ∈ w.pools ∧ Q.id ≠ pid := by
  simp [World.others, List.mem_filter]

theorem findHandle_mem {w : World} {name : Nat} {h : Handle} (hf : w.findHandle name = some h) :
    w.handles.find? (·.1 == name) = some (name, h) := by
  obtain ⟨e, he, rfl⟩ := Option.map_eq_some_iff.1 hf
  have h1 : e.1 = name := by simpa using List.find?_some he
  rw [he, ← h1]

def allocHandles (w : World) (pid name : Nat) : MPool.AllocRes → List (Nat × Handle)
  | .block ptr _ => (name, ⟨ptr, pid⟩) :: w.handles
  | _ => w.handles

def allocRes : MPool.AllocRes → Res
  | .null => .handle none 0
  | .error => .error
  | .block ptr m => .handle (some ptr) m

theorem step_alloc_cases (ora : Oracle) (w : World) (pid name size : Nat) :
    w.step ora (.alloc pid name size) = (w, .invalid) ∨
    ∃ P P' log' r, w.findPool pid = some P ∧ w.handles.any (·.1 == name) = false ∧
      P.allocate ora w.log size = (P', log', r) ∧
      w.step ora (.alloc pid name size) =
        ({ w with pools := P' :: w.others pid, log := log', handles := allocHandles w pid name r }, allocRes r) := by
  cases hfind : w.findPool pid with
  | none => exact .inl (by simp [World.step, hfind])
  | some P =>
    cases hname : w.handles.any (·.1 == name) with
    | true => exact .inl (by simp [World.step, hfind, hname])
    | false =>
      rcases e : P.allocate ora w.log size with ⟨P', log', r⟩
      refine .inr ⟨P, P', log', r, rfl, rfl, e, ?_⟩
      have hid := findPool_id hfind
      unfold World.step
      simp only [hfind, hname, e]
      cases r <;> simp [allocHandles, allocRes, hid]

theorem step_alloc_handle {w : World} {ora : Oracle} {pid name size : Nat} {ptr : Ptr} {m : Nat}
    (hr : (w.step ora (.alloc pid name size)).2 = .handle (some ptr) m) :
    ∃ P, w.findPool pid = some P ∧
      (w.step ora (.alloc pid name size)).1.log = (P.allocate ora w.log size).2.1 ∧
      (P.allocate ora w.log size).2.2 = .block ptr m := by
  rcases step_alloc_cases ora w pid name size with e | ⟨P, P', log', r, hfind, _, ea, e⟩ <;> rw [e] at hr ⊢
  · cases hr
  · refine ⟨P, hfind, ?_⟩
    rw [ea]
    cases r <;> cases hr
    exact ⟨rfl, rfl⟩

theorem step_events_alloc (ora : Oracle) (w : World) (pid name size : Nat) :
    ∃ evs, (w.step ora (.alloc pid name size)).1.log = evs ++ w.log ∧
      (∀ x ∈ dels evs, ∃ P, w.findPool pid = some P ∧ x ∈ flat P.reserved) ∧
      (evs.filter Event.isAlloc).length ≤ 2 := by
  rcases step_alloc_cases ora w pid name size with e | ⟨P, P', log', r, hfind, _, ea, e⟩ <;> rw [e]
  · exact ⟨[], rfl, fun _ h => (nomatch h), by simp⟩
  · obtain ⟨evs, h1, h2, h3⟩ := allocate_events ora P w.log size
    rw [ea] at h1
    exact ⟨evs, h1, fun x hx => ⟨P, hfind, h2 x hx⟩, h3⟩

theorem step_log_create (ora : Oracle) (w : World) (m : Nat) : (w.step ora (.create m)).1.log = w.log := rfl

theorem step_drop_cases (ora : Oracle) (w : World) (name : Nat) :
    (w.findHandle name = none ∧ w.step ora (.drop name) = (w, .invalid)) ∨
    ∃ h ps, w.findHandle name = some h ∧
      w.step ora (.drop name) = ({ w with handles := w.handles.filter (·.1 != name), pools := ps }, .unit) ∧
      ((ps = w.pools ∧ ∀ P, w.findPool h.pool = some P → P.free h.ptr = none) ∨
        ∃ P P', w.findPool h.pool = some P ∧ P.free h.ptr = some P' ∧ ps = P' :: w.others h.pool) := by
  cases hfh : w.findHandle name with
  | none => exact .inl ⟨rfl, by simp [World.step, hfh]⟩
  | some h =>
    refine .inr ⟨h, ?_⟩
    cases hfind : w.findPool h.pool with
    | none => exact ⟨w.pools, rfl, by simp [World.step, hfh, hfind], .inl ⟨rfl, fun _ hP => nomatch hP⟩⟩
    | some P =>
      cases hfree : P.free h.ptr with
      | none =>
        exact ⟨w.pools, rfl, by simp [World.step, hfh, hfind, hfree], .inl ⟨rfl, fun _ hP => Option.some.inj hP ▸ hfree⟩⟩
      | some P' => exact ⟨_, rfl, by simp [World.step, hfh, hfind, hfree], .inr ⟨P, P', rfl, hfree, rfl⟩⟩

theorem step_drop_silent (ora : Oracle) (w : World) (name : Nat) :
    (w.step ora (.drop name)).1.log = w.log ∧
    (w.step ora (.drop name)).2 = if (w.findHandle name).isSome then .unit else .invalid := by
  rcases step_drop_cases ora w name with ⟨hfh, e⟩ | ⟨h, ps, hfh, e, _⟩ <;> rw [e, hfh] <;> exact ⟨rfl, rfl⟩

theorem step_destroy_invalid {w : World} {ora : Oracle} {pid : Nat} (hfind : w.findPool pid = none) :
    w.step ora (.destroy pid) = (w, .invalid) := by
  simp [World.step, hfind]

theorem step_destroy_eq {w : World} {ora : Oracle} {pid : Nat} {P : MPool} (hfind : w.findPool pid = some P) :
    w.step ora (.destroy pid) =
      ({ w with pools := w.others pid, log := relLog (flat (MPool.drain P.reserved P.supplied)) w.log }, .unit) := by
  simp [World.step, hfind, MPool.destroy, MPool.releaseReserved, relLog]

theorem step_events_destroy (ora : Oracle) (w : World) (pid : Nat) (P : MPool) (hfind : w.findPool pid = some P) :
    ∃ evs, (w.step ora (.destroy pid)).1.log = evs ++ w.log ∧ (dels evs).Perm P.owned ∧
      evs.filter Event.isAlloc = [] := by
  rw [step_destroy_eq hfind]
  refine ⟨_, rfl, ?_, filter_isAlloc_dels _⟩
  rw [dels_map_del, ← flatT_fst, ← tagged_fst]
  exact (List.reverse_perm _).trans ((flatT_drain_tagged P).map _)

def ownedAll (w : World) : List Ptr := w.pools.flatMap MPool.owned

def hptrs (hs : List (Nat × Handle)) (i : Nat) : List Ptr := (hs.filter (·.2.pool == i)).map (·.2.ptr)

/-- What every history keeps: `wf`, `perm` and `sizes` together say that the blocks of the live pools
agree with the call log (`linv_pools`); the other fields tie ids, handles and pools together. -/
structure WInv (w : World) : Prop where
  wf : Log.wf w.log
  /-- the blocks owned by the live pools are exactly the outstanding pointers -/
  perm : (ownedAll w).Perm (outstanding w.log)
  /-- live pools have distinct ids … -/
  ids : (w.pools.map (·.id)).Nodup
  /-- … all handed out already, so that the next `create` gets a new one -/
  idlt : ∀ P ∈ w.pools, P.id < w.nextId
  /-- a handle, live pool or not, names an id handed out already: no later pool is taken for its own -/
  hlt : ∀ h ∈ w.handles, h.2.pool < w.nextId
  /-- the client holds each handle under a name of its own (`alloc` refuses a name in use) -/
  hnames : (w.handles.map (·.1)).Nodup
  /-- the supplied blocks of a live pool are exactly the blocks its live handles refer to -/
  hperm : ∀ P ∈ w.pools, (hptrs w.handles P.id).Perm P.keys
  sizes : ∀ P ∈ w.pools, SizesOk P w.log

theorem WInv.init : WInv World.init where
  wf := trivial
  perm := List.Perm.refl _
  ids := List.nodup_nil
  idlt := fun _ h => nomatch h
  hlt := fun _ h => nomatch h
  hnames := List.nodup_nil
  hperm := fun _ h => nomatch h
  sizes := fun _ h => nomatch h

theorem hptrs_cons (n : Nat) (h : Handle) (hs : List (Nat × Handle)) (i : Nat) :
    hptrs ((n, h) :: hs) i = if h.pool = i then h.ptr :: hptrs hs i else hptrs hs i := by
  unfold hptrs
  rw [List.filter_cons]
  by_cases e : h.pool = i <;> simp [e]

theorem hptrs_of_lt (hs : List (Nat × Handle)) (i : Nat) (h : ∀ x ∈ hs, x.2.pool < i) : hptrs hs i = [] := by
  unfold hptrs
  rw [List.filter_eq_nil_iff.2]
  · rfl
  · intro a ha
    have := h a ha
    have : a.2.pool ≠ i := by omega
    simpa using this

theorem hptrs_drop {w : World} (hn : (w.handles.map (·.1)).Nodup) {name : Nat} {h : Handle}
    (hf : w.findHandle name = some h) (i : Nat) :
    (hptrs w.handles i).Perm
      (if h.pool = i then h.ptr :: hptrs (w.handles.filter (·.1 != name)) i
       else hptrs (w.handles.filter (·.1 != name)) i) := by
  have hsp := find_split (fun e : Nat × Handle => e.1) name w.handles (name, h) hn (findHandle_mem hf)
  have := (hsp.filter (·.2.pool == i)).map (·.2.ptr)
  rw [← hptrs_cons]
  exact this

theorem WInv.handle_perm {w : World} (hi : WInv w) {name : Nat} {h : Handle} {P : MPool}
    (hfh : w.findHandle name = some h) (hfp : w.findPool h.pool = some P) :
    (h.ptr :: hptrs (w.handles.filter (·.1 != name)) h.pool).Perm P.keys := by
  have hd := hptrs_drop hi.hnames hfh h.pool
  rw [if_pos rfl] at hd
  exact hd.symm.trans (findPool_id hfp ▸ hi.hperm P (findPool_mem hfp))

theorem WInv.split {w : World} (hi : WInv w) {pid : Nat} {P : MPool} (hf : w.findPool pid = some P) :
    w.pools.Perm (P :: w.others pid) :=
  find_split (fun Q : MPool => Q.id) pid w.pools P hi.ids hf

theorem flatMap_tagged_fst (ps : List MPool) : (ps.flatMap MPool.tagged).map (·.1) = ps.flatMap MPool.owned := by
  simp [List.map_flatMap, tagged_fst]

theorem linv_pools {ps : List MPool} {log : Log} :
    LInv (ps.flatMap MPool.tagged) log ↔
      Log.wf log ∧ (ps.flatMap MPool.owned).Perm (outstanding log) ∧ ∀ P ∈ ps, SizesOk P log := by
  constructor
  · intro h
    exact ⟨h.wf, flatMap_tagged_fst ps ▸ h.perm, fun P hP =>
      sizesOk_iff.2 fun x k hx => h.sizes x k (List.mem_flatMap.2 ⟨P, hP, hx⟩)⟩
  · intro ⟨hw, hp, hs⟩
    refine ⟨hw, (flatMap_tagged_fst ps).symm ▸ hp, fun x k hx => ?_⟩
    obtain ⟨P, hP, hx⟩ := List.mem_flatMap.1 hx
    exact sizesOk_iff.1 (hs P hP) x k hx

theorem WInv.linv {w : World} (hi : WInv w) {pid : Nat} {P : MPool} (hf : w.findPool pid = some P) :
    LInv (P.tagged ++ (w.others pid).flatMap MPool.tagged) w.log :=
  (linv_pools.2 ⟨hi.wf, hi.perm, hi.sizes⟩).of_perm ((hi.split hf).flatMap_right MPool.tagged).symm

theorem WInv.replace {w : World} (hi : WInv w) {pid : Nat} {P P' : MPool} {log' : Log} {hs' : List (Nat × Handle)}
    (hf : w.findPool pid = some P) (hp : LInv (P'.tagged ++ (w.others pid).flatMap MPool.tagged) log')
    (hid : P'.id = P.id) (hlt : ∀ h ∈ hs', h.2.pool < w.nextId) (hn : (hs'.map (·.1)).Nodup)
    (hk : (hptrs hs' pid).Perm P'.keys) (ho : ∀ i, i ≠ pid → (hptrs hs' i).Perm (hptrs w.handles i)) :
    WInv { w with pools := P' :: w.others pid, log := log', handles := hs' } := by
  have hP := findPool_mem hf
  have hold : ∀ Q ∈ w.others pid, Q ∈ w.pools ∧ Q.id ≠ pid := fun Q hQ => mem_others.1 hQ
  obtain ⟨hwf, hperm, hsizes⟩ := linv_pools (ps := P' :: w.others pid).1 hp
  refine { wf := hwf, perm := hperm, sizes := hsizes, hlt := hlt, hnames := hn, ids := ?_,
           idlt := List.forall_mem_cons.2 ⟨hid ▸ hi.idlt P hP, fun Q hQ => hi.idlt Q (hold Q hQ).1⟩,
           hperm := List.forall_mem_cons.2 ⟨?_, fun Q hQ => (ho Q.id (hold Q hQ).2).trans (hi.hperm Q (hold Q hQ).1)⟩ }
  · have : ((P :: w.others pid).map (·.id)).Nodup := ((hi.split hf).map (·.id)).nodup hi.ids
    simpa [hid] using this
  · rw [hid, findPool_id hf]; exact hk

theorem WInv.create {w : World} (hi : WInv w) (ora : Oracle) (m : Nat) : WInv (w.step ora (.create m)).1 := by
  show WInv { w with nextId := w.nextId + 1, pools := MPool.new w.nextId m :: w.pools }
  refine { wf := hi.wf, perm := ?_, ids := ?_, hnames := hi.hnames,
           hlt := fun h hh => Nat.lt_succ_of_lt (hi.hlt h hh),
           idlt := List.forall_mem_cons.2 ⟨Nat.lt_succ_self _, fun Q hQ => Nat.lt_succ_of_lt (hi.idlt Q hQ)⟩,
           hperm := List.forall_mem_cons.2 ⟨?_, hi.hperm⟩,
           sizes := List.forall_mem_cons.2 ⟨⟨fun _ _ hx => (nomatch hx), fun _ _ hx => (nomatch hx)⟩, hi.sizes⟩ }
  · have : ownedAll { w with nextId := w.nextId + 1, pools := MPool.new w.nextId m :: w.pools } = ownedAll w := by
      simp [ownedAll, MPool.owned, MPool.new, flat, MPool.keys]
    rw [this]; exact hi.perm
  · show ((MPool.new w.nextId m :: w.pools).map (·.id)).Nodup
    rw [List.map_cons]
    refine List.nodup_cons.2 ⟨fun hm => ?_, hi.ids⟩
    rcases List.mem_map.1 hm with ⟨Q, hQ, hq⟩
    exact Nat.lt_irrefl _ ((show Q.id = w.nextId from hq) ▸ hi.idlt Q hQ)
  · show (hptrs w.handles w.nextId).Perm []
    rw [hptrs_of_lt w.handles w.nextId hi.hlt]

theorem WInv.alloc {w : World} (hi : WInv w) {ora : Oracle} (hf : ora.Fresh) (pid name size : Nat) :
    WInv (w.step ora (.alloc pid name size)).1 := by
  rcases step_alloc_cases ora w pid name size with e | ⟨P, P', log', r, hfind, hname, ea, e⟩ <;> rw [e]
  · exact hi
  obtain ⟨hp, hsup⟩ := (hi.linv hfind).allocate hf ea
  have hid : P'.id = P.id := by simpa [ea] using allocate_id ora P w.log size
  have hP := findPool_mem hfind
  have hPid := findPool_id hfind
  have hk := hPid ▸ hi.hperm P hP
  cases r with
  | block ptr m =>
    obtain ⟨k, _, hsup⟩ := hsup
    refine hi.replace hfind hp hid (List.forall_mem_cons.2 ⟨hPid ▸ hi.idlt P hP, hi.hlt⟩) ?_ ?_ ?_
    · refine List.nodup_cons.2 ⟨fun hm => ?_, hi.hnames⟩
      rcases List.mem_map.1 hm with ⟨e, he, hen⟩
      have : w.handles.any (·.1 == name) = true := List.any_eq_true.2 ⟨e, he, by simpa using hen⟩
      rw [hname] at this; cases this
    · show (hptrs ((name, (⟨ptr, pid⟩ : Handle)) :: w.handles) pid).Perm (P'.supplied.map (·.1))
      rw [hptrs_cons, if_pos rfl, hsup]
      exact hk.cons ptr
    · intro i hne
      show (hptrs ((name, (⟨ptr, pid⟩ : Handle)) :: w.handles) i).Perm _
      rw [hptrs_cons, if_neg (Ne.symm hne)]
  | _ =>
    refine hi.replace hfind hp hid hi.hlt hi.hnames ?_ (fun _ _ => .refl _)
    show (hptrs w.handles pid).Perm (P'.supplied.map (·.1))
    rw [show P'.supplied = P.supplied from hsup]
    exact hk

theorem WInv.drop {w : World} (hi : WInv w) (ora : Oracle) (name : Nat) : WInv (w.step ora (.drop name)).1 := by
  rcases step_drop_cases ora w name with ⟨_, e⟩ | ⟨h, ps, hfh, e, hps⟩ <;> rw [e]
  · exact hi
  have hsub : (w.handles.filter (·.1 != name)).Sublist w.handles := List.filter_sublist
  have hnames' : ((w.handles.filter (·.1 != name)).map (·.1)).Nodup := hi.hnames.sublist (hsub.map _)
  have hlt' : ∀ e ∈ w.handles.filter (·.1 != name), e.2.pool < w.nextId := fun e he => hi.hlt e (hsub.subset he)
  have ho : ∀ i, i ≠ h.pool → (hptrs (w.handles.filter (·.1 != name)) i).Perm (hptrs w.handles i) := by
    intro i hne
    have := hptrs_drop hi.hnames hfh i
    rw [if_neg (Ne.symm hne)] at this
    exact this.symm
  rcases hps with ⟨rfl, hnone⟩ | ⟨P, P', hfind, hfree, rfl⟩
  · -- no pool took the block back: the handle's pool is gone, since a live one knows the block
    refine { hi with hlt := hlt', hnames := hnames',
                     hperm := fun Q hQ => (ho Q.id ?_).trans (hi.hperm Q hQ) }
    cases hfind : w.findPool h.pool with
    | none => exact findPool_none hfind hQ
    | some P =>
      obtain ⟨P', hfree⟩ := free_of_mem ((hi.handle_perm hfh hfind).subset (List.mem_cons_self ..))
      cases (hnone P hfind).symm.trans hfree
  · exact hi.replace hfind ((hi.linv hfind).of_perm ((tagged_free hfree).append_right _)) (free_id hfree) hlt' hnames'
      ((hi.handle_perm hfh hfind).trans (keys_free hfree)).cons_inv ho

theorem WInv.destroy {w : World} (hi : WInv w) (ora : Oracle) (pid : Nat) : WInv (w.step ora (.destroy pid)).1 := by
  cases hfind : w.findPool pid with
  | none => rw [step_destroy_invalid hfind]; exact hi
  | some P =>
    rw [step_destroy_eq hfind]
    have hp := LInv.release _ ((hi.linv hfind).of_perm ((flatT_drain_tagged P).append_right _))
    rw [flatT_fst] at hp
    obtain ⟨hwf, hperm, hsizes⟩ := linv_pools.1 hp
    have hsub : (w.others pid).Sublist w.pools := List.filter_sublist
    exact { wf := hwf, perm := hperm, ids := hi.ids.sublist (hsub.map _),
            idlt := fun Q hQ => hi.idlt Q (hsub.subset hQ), hlt := hi.hlt, hnames := hi.hnames,
            hperm := fun Q hQ => hi.hperm Q (hsub.subset hQ), sizes := hsizes }

theorem WInv.step {w : World} (hi : WInv w) {ora : Oracle} (hf : ora.Fresh) (op : Op) : WInv (w.step ora op).1 := by
  cases op with
  | create m => exact hi.create ora m
  | alloc pid name size => exact hi.alloc hf pid name size
  | drop name => exact hi.drop ora name
  | destroy pid => exact hi.destroy ora pid

theorem WInv.runFrom {w : World} (hi : WInv w) : ∀ (h : History), h.Fresh → WInv (runFrom w h) := by
  intro h
  induction h generalizing w with
  | nil => intro _; exact hi
  | cons s h ih =>
    intro hf
    exact ih (hi.step (hf s (by simp)) s.2) (fun t ht => hf t (by simp [ht]))

theorem WInv.run (h : History) (hf : h.Fresh) : WInv (run h) := WInv.init.runFrom h hf

theorem WInv.findPool_of_mem {w : World} (hi : WInv w) {P : MPool} (hP : P ∈ w.pools) : w.findPool P.id = some P :=
  find_of_mem (fun Q : MPool => Q.id) w.pools P hi.ids hP

theorem WInv.nodup_owned {w : World} (hi : WInv w) : (ownedAll w).Nodup := hi.perm.symm.nodup (wf_nodup hi.wf)

theorem WInv.nodup_split {w : World} (hi : WInv w) {pid : Nat} {P : MPool} (hf : w.findPool pid = some P) :
    (P.owned ++ (w.others pid).flatMap MPool.owned).Nodup :=
  ((hi.split hf).flatMap_right MPool.owned).nodup hi.nodup_owned

theorem WInv.pool_nodup {w : World} (hi : WInv w) {P : MPool} (hP : P ∈ w.pools) : P.owned.Nodup :=
  (List.nodup_append.1 (hi.nodup_split (hi.findPool_of_mem hP))).1

theorem WInv.pools_disjoint {w : World} (hi : WInv w) {P Q : MPool} (hP : P ∈ w.pools) (hQ : Q ∈ w.pools) :
    P = Q ∨ (P.id ≠ Q.id ∧ ∀ x, x ∈ P.owned → x ∉ Q.owned) := by
  have hf := hi.findPool_of_mem hP
  rcases List.mem_cons.1 ((hi.split hf).subset hQ) with h | h
  · exact .inl h.symm
  · exact .inr ⟨fun e => (mem_others.1 h).2 e.symm, fun x hx hxq =>
      (List.nodup_append.1 (hi.nodup_split hf)).2.2 x hx x (List.mem_flatMap.2 ⟨Q, h, hxq⟩) rfl⟩

theorem WInv.supplied_not_reserved {w : World} (hi : WInv w) {P Q : MPool} (hP : P ∈ w.pools) (hQ : Q ∈ w.pools)
    {x : Ptr} (hx : x ∈ P.keys) : x ∉ flat Q.reserved := by
  intro hxq
  rcases hi.pools_disjoint hP hQ with h | h
  · subst h
    exact (List.nodup_append.1 (hi.pool_nodup hP)).2.2 x hxq x hx rfl
  · exact h.2 x (List.mem_append_right _ hx) (List.mem_append_left _ hxq)

theorem WInv.supplied_unique {w : World} (hi : WInv w) {P Q : MPool} (hP : P ∈ w.pools) (hQ : Q ∈ w.pools)
    {x : Ptr} (hx : x ∈ P.keys) (hxq : x ∈ Q.keys) : P = Q :=
  (hi.pools_disjoint hP hQ).elim id fun h =>
    absurd (List.mem_append_right _ hxq) (h.2 x (List.mem_append_right _ hx))

theorem WInv.allocate_block {w : World} (hi : WInv w) {ora : Oracle} (hf : ora.Fresh) {pid size : Nat} {P : MPool}
    (hfind : w.findPool pid = some P) {ptr : Ptr} {m : Nat}
    (hr : (P.allocate ora w.log size).2.2 = .block ptr m) :
    allocSize (P.allocate ora w.log size).2.1 ptr = some m ∧ ∀ Q ∈ w.pools, ptr ∉ Q.keys := by
  rcases e : P.allocate ora w.log size with ⟨P', log', r⟩
  rw [e] at hr
  cases (hr : r = _)
  obtain ⟨hp, k, rfl, hsup⟩ := (hi.linv hfind).allocate hf e
  have hkeys : P'.keys = ptr :: P.keys := congrArg (List.map Prod.fst) hsup
  refine ⟨hp.sizes ptr k (List.mem_append_left _ (List.mem_append_right _ (hsup ▸ List.mem_cons_self ..))),
    fun Q hQ hq => ?_⟩
  have hnd := hp.nodup
  rw [List.map_append, tagged_fst, flatMap_tagged_fst, List.nodup_append] at hnd
  rcases List.mem_cons.1 ((hi.split hfind).subset hQ) with e | e
  · subst e
    have hk := (List.nodup_append.1 hnd.1).2.1
    rw [hkeys] at hk
    exact (List.nodup_cons.1 hk).1 hq
  · exact hnd.2.2 ptr (List.mem_append_right _ (hkeys ▸ List.mem_cons_self ..)) ptr
      (List.mem_flatMap.2 ⟨Q, e, List.mem_append_right _ hq⟩) rfl

def IdsStep (w : World) (s : World × Res) : Prop :=
  w.nextId ≤ s.1.nextId ∧ (∀ Q ∈ s.1.pools, (∃ Q' ∈ w.pools, Q'.id = Q.id) ∨ Q.id = w.nextId) ∧
  ∀ i, s.2 = .created i → i = w.nextId ∧ s.1.nextId = w.nextId + 1

theorem step_ids (ora : Oracle) (w : World) (op : Op) : IdsStep w (w.step ora op) := by
  -- every call but `create` leaves the counter alone, returns no id, and keeps, replaces or removes pools
  have keep : ∀ {ps : List MPool} {hs : List (Nat × Handle)} {log : Log} {res : Res},
      (∀ Q ∈ ps, ∃ Q' ∈ w.pools, Q'.id = Q.id) → (∀ i, res ≠ .created i) →
      IdsStep w ({ w with pools := ps, handles := hs, log := log }, res) :=
    fun hps hres => ⟨Nat.le_refl _, fun Q hQ => .inl (hps Q hQ), fun i h => absurd h (hres i)⟩
  have self : ∀ Q ∈ w.pools, ∃ Q' ∈ w.pools, Q'.id = Q.id := fun Q hQ => ⟨Q, hQ, rfl⟩
  have others : ∀ pid, ∀ Q ∈ w.others pid, ∃ Q' ∈ w.pools, Q'.id = Q.id :=
    fun pid Q hQ => self Q (mem_others.1 hQ).1
  have repl : ∀ {pid : Nat} {P P' : MPool}, w.findPool pid = some P → P'.id = P.id →
      ∀ Q ∈ P' :: w.others pid, ∃ Q' ∈ w.pools, Q'.id = Q.id :=
    fun hf hid => List.forall_mem_cons.2 ⟨⟨_, findPool_mem hf, hid.symm⟩, others _⟩
  cases op with
  | create m =>
    exact ⟨Nat.le_succ _, List.forall_mem_cons.2 ⟨.inr rfl, fun Q hQ => .inl (self Q hQ)⟩,
      fun i h => ⟨(Res.created.inj h).symm, rfl⟩⟩
  | alloc pid name size =>
    rcases step_alloc_cases ora w pid name size with e | ⟨P, P', log', r, hfind, _, ea, e⟩ <;> rw [e]
    · exact keep self (fun _ h => nomatch h)
    · have hid : P'.id = P.id := by simpa [ea] using allocate_id ora P w.log size
      exact keep (repl hfind hid) (fun _ h => by cases r <;> cases h)
  | drop name =>
    rcases step_drop_cases ora w name with ⟨_, e⟩ | ⟨h, ps, _, e, hps⟩ <;> rw [e]
    · exact keep self (fun _ h => nomatch h)
    · rcases hps with ⟨rfl, _⟩ | ⟨P, P', hfind, hfree, rfl⟩
      · exact keep self (fun _ h => nomatch h)
      · exact keep (repl hfind (free_id hfree)) (fun _ h => nomatch h)
  | destroy pid =>
    cases hfind : w.findPool pid with
    | none => rw [step_destroy_invalid hfind]; exact keep self (fun _ h => nomatch h)
    | some P => rw [step_destroy_eq hfind]; exact keep (others pid) (fun _ h => nomatch h)

theorem dead_stays_dead (i : Nat) : ∀ (h : History) (w : World), i < w.nextId → (∀ Q ∈ w.pools, Q.id ≠ i) →
    i < (runFrom w h).nextId ∧ ∀ Q ∈ (runFrom w h).pools, Q.id ≠ i := by
  intro h
  induction h with
  | nil => intro w h1 h2; exact ⟨h1, h2⟩
  | cons s h ih =>
    intro w h1 h2
    obtain ⟨hle, hps, _⟩ := step_ids s.1 w s.2
    apply ih (w.step s.1 s.2).1
    · exact Nat.lt_of_lt_of_le h1 hle
    · intro Q hQ
      rcases hps Q hQ with ⟨Q', hQ', e⟩ | e
      · rw [← e]; exact h2 Q' hQ'
      · omega

def createdIds : List Res → List Nat
  | [] => []
  | .created i :: rs => i :: createdIds rs
  | _ :: rs => createdIds rs

theorem createdIds_results : ∀ (h : History) (w : World),
    (createdIds (results w h)).Pairwise (· < ·) ∧ ∀ i ∈ createdIds (results w h), w.nextId ≤ i := by
  intro h
  induction h with
  | nil => intro w; exact ⟨List.Pairwise.nil, fun _ hi => nomatch hi⟩
  | cons s h ih =>
    intro w
    obtain ⟨ih1, ih2⟩ := ih (w.step s.1 s.2).1
    obtain ⟨hle, _, hcr⟩ := step_ids s.1 w s.2
    have later : ∀ j ∈ createdIds (results (w.step s.1 s.2).1 h), w.nextId ≤ j :=
      fun j hj => Nat.le_trans hle (ih2 j hj)
    rw [show results w (s :: h) = (w.step s.1 s.2).2 :: results (w.step s.1 s.2).1 h from rfl]
    cases hr : (w.step s.1 s.2).2 with
    | created i =>
      obtain ⟨e1, e2⟩ := hcr i hr
      refine ⟨List.pairwise_cons.2 ⟨fun j hj => ?_, ih1⟩, List.forall_mem_cons.2 ⟨by omega, later⟩⟩
      have := ih2 j hj; omega
    | _ => exact ⟨ih1, later⟩

end Primitiv.Pool
