import PrimitivModel.Lemmas.GraphBase
/-!
The reverse sweep of `Model/Graph.lean` (`zeroFill`, `addContribs`, `invalidateGrads`, `backwardStep`, `sweep`,
`backward`), for Props/C06, C11, Findings/C06Blocked, for C10 through Lemmas/GraphFailureSweep.lean and for
C01 through Lemmas/SweepAdjoint.lean.  Core Lean only.

One iteration is followed through its program points `stepPoints`, at which `stepPoints_live` says where a
gradient can be live.  That operators appended later and a prior parameter gradient do not matter is one
statement, `backward_comm`: `backward` commutes with every transformation of
the state that is `Transparent`.  The invariants of the loop are `GradsBelow`, `OnlyAnc` (ancestors) and `ZInv`
(blocked paths); `GInv` is the invariant of histories (`Cmd`, `runHist`).  The concrete graphs of the
`example`s are at the end.
-/
namespace Primitiv.Graph
variable {τ : Type}

/-! ### gradients after zero-fill, contributions, invalidation -/

theorem gradAt_updNode (s : State τ) (a b : Addr) (f : NodeInfo τ → NodeInfo τ) :
    (s.updNode a f).gradAt b = if b = a then (s.node? a).bind (fun n => (f n).grad) else s.gradAt b := by
  unfold State.gradAt
  rw [updNode_node?]
  by_cases h : b = a
  · simp only [h, if_true]; cases s.node? a <;> rfl
  · simp [h]

/-- after the zero-fill the listed nodes have a valid gradient: the one they had, or zeros -/
theorem gradAt_zeroFill (T : TOps τ) (l : List Addr) (s : State τ) (b : Addr) :
    (zeroFill T s l).gradAt b =
      if b ∈ l then (s.node? b).map (fun n => n.grad.getD (T.zeros n.size)) else s.gradAt b := by
  unfold State.gradAt
  rw [node?_zeroFill]
  split
  · cases s.node? b <;> simp [zfNode_grad]
  · rfl

theorem zeroFill_gradAt_isSome (T : TOps τ) (s : State τ) (l : List Addr) (b : Addr)
    (h : ((zeroFill T s l).gradAt b).isSome = true) : b ∈ l ∨ (s.gradAt b).isSome = true := by
  rw [gradAt_zeroFill] at h
  by_cases hm : b ∈ l
  · exact Or.inl hm
  · simp only [hm, if_false] at h; exact Or.inr h

theorem zeroFill_gradAt_isSome_of_mem (T : TOps τ) (s : State τ) (l : List Addr) (b : Addr)
    (hm : b ∈ l) (hv : s.validAddr b = true) : ((zeroFill T s l).gradAt b).isSome = true := by
  obtain ⟨n, hn⟩ := node?_of_valid hv
  simp [gradAt_zeroFill, hm, hn]

/-- sequential accumulation of contributions on a gradient assignment -/
def accGrads (T : TOps τ) (G : Addr → Option τ) : List (Addr × Option τ) → Addr → Option τ
  | [] => G
  | (_, none) :: rest => accGrads T G rest
  | (a, some c) :: rest => accGrads T (fun b => if b = a then (G a).map (T.add · c) else G b) rest

theorem gradAt_addContribs (T : TOps τ) (l : List (Addr × Option τ)) :
    ∀ s : State τ, (addContribs T s l).gradAt = accGrads T s.gradAt l := by
  induction l with
  | nil => intro s; rfl
  | cons x rest ih =>
    intro s
    obtain ⟨a, c⟩ := x
    cases c with
    | none => rw [addContribs_none, ih]; rfl
    | some c =>
      rw [addContribs_some, ih]
      simp only [accGrads]
      congr 1
      funext b
      rw [gradAt_updNode]
      by_cases hba : b = a
      · simp only [hba, if_true, State.gradAt]
        cases s.node? a with
        | none => rfl
        | some n => simp [addNode_grad]
      · simp [hba]

theorem accGrads_isSome (T : TOps τ) (l : List (Addr × Option τ)) :
    ∀ (G : Addr → Option τ) (b : Addr), (accGrads T G l b).isSome = (G b).isSome := by
  induction l with
  | nil => intro G b; rfl
  | cons x rest ih =>
    intro G b
    obtain ⟨a, c⟩ := x
    cases c with
    | none => exact ih G b
    | some c =>
      simp only [accGrads]
      rw [ih]
      by_cases hba : b = a <;> simp [hba]

theorem accGrads_not_mem (T : TOps τ) (l : List (Addr × Option τ)) :
    ∀ (G : Addr → Option τ) (b : Addr), (∀ x ∈ l, x.1 ≠ b) → accGrads T G l b = G b := by
  induction l with
  | nil => intro G b _; rfl
  | cons x rest ih =>
    intro G b h
    obtain ⟨a, c⟩ := x
    have hr : ∀ x ∈ rest, x.1 ≠ b := fun x hx => h x (List.mem_cons_of_mem _ hx)
    cases c with
    | none => exact ih G b hr
    | some c =>
      simp only [accGrads]
      rw [ih _ _ hr]
      have : b ≠ a := fun e => h (a, some c) (by simp) e.symm
      simp [this]

theorem gradAt_invalidateGrads (s : State τ) (k : Nat) (b : Addr) :
    (invalidateGrads s k).gradAt b = if b.oid = k then none else s.gradAt b := by
  unfold invalidateGrads State.gradAt State.node?
  cases ho : s.ops[k]? with
  | none =>
    by_cases hb : b.oid = k
    · simp [hb, ho]
    · simp [hb]
  | some o =>
    obtain ⟨hl, he⟩ := List.getElem?_eq_some_iff.mp ho
    by_cases hb : b.oid = k
    · subst hb
      simp only [if_true, List.getElem?_set, hl]
      simp only [List.getElem?_map]
      cases o.rets[b.vid]? <;> simp
    · simp [hb, List.getElem?_set_ne (Ne.symm hb)]

theorem enabled_iff {s : State τ} {k : Nat} {o : OpInfo τ} (ho : s.ops[k]? = some o) :
    o.enabled = true ↔ ∃ j, (s.gradAt ⟨k, j⟩).isSome = true := by
  unfold OpInfo.enabled State.gradAt
  rw [List.any_eq_true]
  constructor
  · rintro ⟨n, hn, hg⟩
    obtain ⟨j, hj⟩ := List.mem_iff_getElem?.mp hn
    exact ⟨j, by rw [ops_getElem?_node? ho, hj]; simpa using hg⟩
  · rintro ⟨j, hj⟩
    rw [ops_getElem?_node? ho] at hj
    cases hn : o.rets[j]? with
    | none => rw [hn] at hj; simp at hj
    | some n =>
      rw [hn] at hj
      exact ⟨n, List.mem_iff_getElem?.mpr ⟨j, hn⟩, by simpa using hj⟩

theorem stepCore_gradAt_isSome (T : TOps τ) (s2 : State τ) (o : OpInfo τ) (xs ys gys : List τ) (b : Addr) :
    ((stepCore T s2 o xs ys gys).gradAt b).isSome = (s2.gradAt b).isSome := by
  unfold stepCore
  split
  · split <;> rfl
  · rfl
  · rw [gradAt_addContribs, accGrads_isSome]

/-- The states at the program points of the iteration for operator `k` (graph.cc:167-222): on entry,
after the zero-fill of the return gradients, after the zero-fill of the argument gradients, after
the operator's backward rule, after the `invalidate()` loop.  (While the rule runs, contributions are
added one after the other; that changes no gradient's validity.) -/
def stepPoints (T : TOps τ) (s : State τ) (k : Nat) : List (State τ) :=
  match s.ops[k]? with
  | none => [s]
  | some o =>
    if !o.enabled then [s]
    else
      let s1 := zeroFill T s (retAddrs k o)
      match o.args.mapM s.valueOf? with
      | none => [s, s1]
      | some xs =>
        let s2 := zeroFill T s1 o.args
        let s3 := stepCore T s2 o xs o.ys (o.gys T)
        [s, s1, s2, s3, invalidateGrads s3 k]

theorem stepPoints_last (T : TOps τ) (s : State τ) (k : Nat) :
    (stepPoints T s k).getLast? = some (backwardStep T s k).1 := by
  rw [backwardStep_eq]
  unfold stepPoints
  cases s.ops[k]? with
  | none => rfl
  | some o =>
    simp only
    by_cases he : (!o.enabled) = true
    · rw [if_pos he, if_pos he]; rfl
    · rw [if_neg he, if_neg he]
      cases o.args.mapM s.valueOf? <;> rfl

/-- Where gradients can be live at the program points of the iteration for operator `k`: in any set `P`
of nodes that holds those live on entry and, if `k` is enabled, the return values of `k` and its
arguments (the two zero-fills). -/
theorem stepPoints_live (T : TOps τ) {s : State τ} {k : Nat} (P : Addr → Prop)
    (h0 : ∀ b, (s.gradAt b).isSome = true → P b)
    (hk : ∀ j, (s.gradAt ⟨k, j⟩).isSome = true → ∀ b, b.oid = k ∨ b ∈ s.argsOf k → P b) :
    ∀ s' ∈ stepPoints T s k, ∀ b, (s'.gradAt b).isSome = true → P b := by
  intro s' hs'
  unfold stepPoints at hs'
  cases ho : s.ops[k]? with
  | none => rw [ho] at hs'; rw [List.mem_singleton.mp hs']; exact h0
  | some o =>
    rw [ho] at hs'
    simp only at hs'
    by_cases he : (!o.enabled) = true
    · rw [if_pos he] at hs'; rw [List.mem_singleton.mp hs']; exact h0
    · rw [if_neg he] at hs'
      obtain ⟨j, hj⟩ := (enabled_iff ho).mp (by simpa using he)
      rw [argsOf_eq ho] at hk
      have h1 : ∀ b, ((zeroFill T s (retAddrs k o)).gradAt b).isSome = true → P b := fun b hb =>
        (zeroFill_gradAt_isSome T _ _ b hb).elim (fun hm => hk j hj b (.inl ((mem_retAddrs k o b).mp hm).1)) (h0 b)
      have h2 : ∀ b, ((zeroFill T (zeroFill T s (retAddrs k o)) o.args).gradAt b).isSome = true → P b :=
        fun b hb => (zeroFill_gradAt_isSome T _ _ b hb).elim (fun hm => hk j hj b (.inr hm)) (h1 b)
      have h3 : ∀ xs b, ((stepCore T (zeroFill T (zeroFill T s (retAddrs k o)) o.args) o xs o.ys
          (o.gys T)).gradAt b).isSome = true → P b := fun xs b hb => h2 b (by rwa [stepCore_gradAt_isSome] at hb)
      cases hxs : o.args.mapM s.valueOf? with
      | none =>
        rw [hxs] at hs'
        simp only [List.mem_cons, List.not_mem_nil, or_false] at hs'
        rcases hs' with rfl | rfl
        · exact h0
        · exact h1
      | some xs =>
        rw [hxs] at hs'
        simp only [List.mem_cons, List.not_mem_nil, or_false] at hs'
        rcases hs' with rfl | rfl | rfl | rfl | rfl
        · exact h0
        · exact h1
        · exact h2
        · exact h3 xs
        · intro b hb
          rw [gradAt_invalidateGrads] at hb
          split at hb
          · cases hb
          · exact h3 xs b hb

theorem backwardStep_mem_stepPoints (T : TOps τ) (s : State τ) (k : Nat) :
    (backwardStep T s k).1 ∈ stepPoints T s k :=
  List.mem_of_getLast? (stepPoints_last T s k)

theorem gradAt_of_not_enabled {s : State τ} {k : Nat} {o : OpInfo τ} (ho : s.ops[k]? = some o)
    (he : (!o.enabled) = true) (j : Nat) : s.gradAt ⟨k, j⟩ = none := by
  have hne : ¬ ∃ j, (s.gradAt ⟨k, j⟩).isSome = true := by rw [← enabled_iff ho]; simpa using he
  cases hg : s.gradAt ⟨k, j⟩ with
  | none => rfl
  | some g => exact absurd ⟨j, by rw [hg]; rfl⟩ hne

theorem backwardStep_gradAt_self (T : TOps τ) {s s1 : State τ} {k : Nat}
    (hb : backwardStep T s k = (s1, .ok ())) (j : Nat) : s1.gradAt ⟨k, j⟩ = none := by
  rw [backwardStep_eq] at hb
  cases ho : s.ops[k]? with
  | none => rw [ho] at hb; cases hb
  | some o =>
    rw [ho] at hb
    simp only at hb
    by_cases he : (!o.enabled) = true
    · rw [if_pos he] at hb
      cases hb
      exact gradAt_of_not_enabled ho he j
    · rw [if_neg he] at hb
      cases hxs : o.args.mapM s.valueOf? with
      | none => rw [hxs] at hb; cases hb
      | some xs =>
        rw [hxs] at hb
        cases hb
        rw [gradAt_invalidateGrads, if_pos rfl]

/-- the gradient of parameter `p` is written only by the iteration for an enabled Parameter operator
of `p`, which adds the gradient of its return value to it -/
theorem backwardStep_pgrad_cases (T : TOps τ) (s : State τ) (k p : Nat) :
    (backwardStep T s k).1.params.grad p = s.params.grad p ∨
    ∃ o n rest, s.ops[k]? = some o ∧ o.enabled = true ∧ o.kind = .param p ∧ o.rets = n :: rest ∧
      (backwardStep T s k).1.params.grad p = T.add (s.params.grad p) (n.grad.getD (T.zeros n.size)) := by
  rw [backwardStep_eq]
  cases ho : s.ops[k]? with
  | none => exact .inl rfl
  | some o =>
    simp only
    by_cases he : (!o.enabled) = true
    · rw [if_pos he]; exact .inl rfl
    · rw [if_neg he]
      cases hxs : o.args.mapM s.valueOf? with
      | none => exact .inl (by simp)
      | some xs =>
        simp only [invalidateGrads_params]
        unfold stepCore OpInfo.gys
        cases hkind : o.kind with
        | rnd => exact .inl (by simp)
        | op sem => exact .inl (by simp)
        | param p' =>
          cases hr : o.rets with
          | nil => exact .inl (by simp)
          | cons n rest =>
            by_cases hpp : p = p'
            · subst hpp
              exact .inr ⟨o, n, rest, rfl, by simpa using he, hkind, hr, by simp⟩
            · exact .inl (by simp [hpp])

theorem gradAt_seed (T : TOps τ) (s : State τ) (a b : Addr) :
    (seed T s a).gradAt b = if b = a then (s.node? a).map (fun n => T.ones n.size) else s.gradAt b := by
  unfold seed
  rw [gradAt_updNode]
  by_cases h : b = a
  · simp only [h, if_true]; cases s.node? a <;> rfl
  · simp [h]

/-! ### transformations of the state that `backward` neither reads nor writes -/

def State.mapPG (f : (Nat → τ) → (Nat → τ)) (s : State τ) : State τ :=
  { s with params := { s.params with grad := f s.params.grad } }

/-- `D i s`: operator `i` of `s` is one on which `m` is the identity; `D` is closed under arguments and holds
in every state of the same shape.  Evaluating such an operator neither reads nor writes what `m` changes: `m`
keeps its record and the parameter values and commutes with an operator's own forward `evalSelf`.
Instances: `mapPG f` everywhere; `appendOps e` on the operators of a graph whose arguments refer to
smaller ids. -/
structure FwdTransparent (m : State τ → State τ) (D : Nat → State τ → Prop) : Prop where
  get : ∀ {i s}, D i s → (m s).ops[i]? = s.ops[i]?
  pvalue : ∀ s, (m s).params.value = s.params.value
  args : ∀ {i s o}, D i s → s.ops[i]? = some o → ∀ b ∈ o.args, D b.oid s
  shape : ∀ {i s s'}, D i s → s'.shape = s.shape → D i s'
  op : ∀ {s} (a : Addr) (kind : Kind τ) (n : NodeInfo τ) (xs : List τ), D a.oid s →
    evalSelf kind n a (m s) xs = (m (evalSelf kind n a s xs).1, (evalSelf kind n a s xs).2)

/-- … and the sweep does not either: `m` commutes with the updates of node gradients and with a
Parameter operator's `+=` on a parameter gradient. -/
structure Transparent (T : TOps τ) (m : State τ → State τ) (D : Nat → State τ → Prop) : Prop
    extends FwdTransparent m D where
  upd : ∀ {s} (a : Addr) (f : NodeInfo τ → NodeInfo τ), D a.oid s → (m s).updNode a f = m (s.updNode a f)
  inval : ∀ {k s}, D k s → invalidateGrads (m s) k = m (invalidateGrads s k)
  padd : ∀ (s : State τ) (p : Nat) (g : τ),
    (m s).mapPG (fun G q => if q = p then T.add (G p) g else G q)
      = m (s.mapPG fun G q => if q = p then T.add (G p) g else G q)

section transparent
variable {m : State τ → State τ} {D : Nat → State τ → Prop}

theorem FwdTransparent.valueOf (h : FwdTransparent m D) {s : State τ} {b : Addr} (hD : D b.oid s) :
    (m s).valueOf? b = s.valueOf? b := by
  unfold State.valueOf?; rw [h.get hD, h.pvalue]

theorem FwdTransparent.node (h : FwdTransparent m D) {s : State τ} {b : Addr} (hD : D b.oid s) :
    (m s).node? b = s.node? b := by
  unfold State.node?; rw [h.get hD]

theorem FwdTransparent.validAddr (h : FwdTransparent m D) {s : State τ} {b : Addr} (hD : D b.oid s) :
    (m s).validAddr b = s.validAddr b := by
  unfold State.validAddr; rw [h.get hD]

theorem FwdTransparent.fwdFrame (h : FwdTransparent m D) {i : Nat} {s s' : State τ} (hD : D i s)
    (hf : FwdFrame s s') : D i s' := h.shape hD (shape_of_gskel hf.gskel)

theorem FwdTransparent.sameFrame (h : FwdTransparent m D) {i : Nat} {s s' : State τ} (hD : D i s)
    (hf : SameFrame s s') : D i s' := h.shape hD (shape_of_skel hf.skel)

theorem forwardArgsWith_comm (h : FwdTransparent m D) (ev : State τ → Addr → State τ × Except Err τ)
    (hfr : ∀ s a, FwdFrame s (ev s a).1) (l : List Addr)
    (hev : ∀ a ∈ l, ∀ s, D a.oid s → ev (m s) a = (m (ev s a).1, (ev s a).2)) :
    ∀ s, (∀ a ∈ l, D a.oid s) →
      forwardArgsWith ev (m s) l = (m (forwardArgsWith ev s l).1, (forwardArgsWith ev s l).2) := by
  induction l with
  | nil => intro s _; rfl
  | cons a rest ih =>
    intro s hD
    simp only [forwardArgsWith]
    rw [hev a (by simp) s (hD a (by simp))]
    have hf := hfr s a
    rcases he : ev s a with ⟨s1, r⟩
    rw [he] at hf
    cases r with
    | error e => rfl
    | ok v =>
      simp only at hf ⊢
      rw [ih (fun b hb => hev b (by simp [hb])) s1 (fun b hb => h.fwdFrame (hD b (by simp [hb])) hf)]
      rcases forwardArgsWith ev s1 rest with ⟨s2, r2⟩
      cases r2 <;> rfl

theorem forwardRec_comm (T : TOps τ) (h : FwdTransparent m D) : ∀ (fuel : Nat) (a : Addr) (s : State τ),
    D a.oid s → forwardRec T fuel (m s) a = (m (forwardRec T fuel s a).1, (forwardRec T fuel s a).2) := by
  intro fuel
  induction fuel with
  | zero => intro a s _; rfl
  | succ fuel ih =>
    intro a s hD
    simp only [forwardRec_succ]
    rw [h.get hD, h.pvalue]
    cases ho : s.ops[a.oid]? with
    | none => rfl
    | some o =>
      simp only
      have key : forwardOp (forwardRec T fuel) (m s) a o
          = (m (forwardOp (forwardRec T fuel) s a o).1, (forwardOp (forwardRec T fuel) s a o).2) := by
        unfold forwardOp
        cases o.rets[a.vid]? with
        | none => rfl
        | some n =>
          simp only
          cases n.value with
          | some v => rfl
          | none =>
            simp only
            rw [forwardArgsWith_comm h _ (forwardRec_fwdFrame T fuel) o.args (fun b _ => ih b) s (h.args hD ho)]
            have hf := forwardArgsWith_fwdFrame _ (forwardRec_fwdFrame T fuel) o.args s
            rcases hfa : forwardArgsWith (forwardRec T fuel) s o.args with ⟨s1, r⟩
            rw [hfa] at hf
            cases r with
            | error e => rfl
            | ok xs => exact h.op a o.kind n xs (h.fwdFrame hD hf)
      cases o.kind with
      | param p => simp only; split <;> rfl
      | op _ | rnd => exact key

theorem fwdPhase_comm (T : TOps τ) (h : FwdTransparent m D) (a : Addr) (s : State τ) (hD : D a.oid s) :
    fwdPhase T (m s) a = (m (fwdPhase T s a).1, (fwdPhase T s a).2) := by
  have hfw : forward T (m s) a = (m (forward T s a).1, (forward T s a).2) := by
    unfold forward
    rw [h.validAddr hD]
    split
    · exact forwardRec_comm T h _ a s hD
    · rfl
  unfold fwdPhase
  rw [h.node hD, hfw]
  cases s.node? a with
  | none => rfl
  | some n =>
    simp only
    split
    · rfl
    · rcases forward T s a with ⟨s1, r⟩
      cases r <;> rfl

variable {T : TOps τ}

theorem zeroFill_comm (h : Transparent T m D) (l : List Addr) : ∀ s, (∀ a ∈ l, D a.oid s) →
    zeroFill T (m s) l = m (zeroFill T s l) := by
  induction l with
  | nil => intro s _; rfl
  | cons a rest ih =>
    intro s hD
    rw [zeroFill_cons, zeroFill_cons, h.upd a _ (hD a (by simp)), ih]
    exact fun b hb => h.sameFrame (hD b (by simp [hb])) (updNode_sameFrame s a _ (zfNode_skel T))

theorem addContribs_comm (h : Transparent T m D) (l : List (Addr × Option τ)) : ∀ s, (∀ x ∈ l, D x.1.oid s) →
    addContribs T (m s) l = m (addContribs T s l) := by
  induction l with
  | nil => intro s _; rfl
  | cons x rest ih =>
    intro s hD
    obtain ⟨a, c⟩ := x
    have hr : ∀ x ∈ rest, D x.1.oid s := fun x hx => hD x (by simp [hx])
    cases c with
    | none => rw [addContribs_none, addContribs_none, ih _ hr]
    | some c =>
      rw [addContribs_some, addContribs_some, h.upd a _ (hD (a, some c) (by simp)), ih]
      exact fun b hb => h.sameFrame (hr b hb) (updNode_sameFrame s a _ (addNode_skel T c))

theorem stepCore_comm (h : Transparent T m D) (s2 : State τ) (o : OpInfo τ) (xs ys gys : List τ)
    (hD : ∀ a ∈ o.args, D a.oid s2) : stepCore T (m s2) o xs ys gys = m (stepCore T s2 o xs ys gys) := by
  unfold stepCore
  cases o.kind with
  | param p =>
    cases gys with
    | nil => rfl
    | cons g _ => exact h.padd s2 p g
  | rnd => rfl
  | op sem => exact addContribs_comm h _ s2 (fun x hx => hD x.1 (List.of_mem_zip hx).1)

theorem backwardStep_comm (h : Transparent T m D) (s : State τ) (k : Nat) (hD : D k s) :
    backwardStep T (m s) k = (m (backwardStep T s k).1, (backwardStep T s k).2) := by
  simp only [backwardStep_eq]
  rw [h.get hD]
  cases ho : s.ops[k]? with
  | none => rfl
  | some o =>
    simp only
    have hargs : ∀ a ∈ o.args, D a.oid s := h.args hD ho
    have hrets : ∀ a ∈ retAddrs k o, D a.oid s := fun a ha => by rw [((mem_retAddrs k o a).mp ha).1]; exact hD
    by_cases he : (!o.enabled) = true
    · simp only [he, if_true]
    · rw [if_neg he, if_neg he, mapM_congr (fun a ha => h.valueOf (hargs a ha))]
      have hf1 := zeroFill_sameFrame T (retAddrs k o) s
      have hf2 := hf1.trans (zeroFill_sameFrame T o.args _)
      cases o.args.mapM s.valueOf? with
      | none => simp only; rw [zeroFill_comm h _ s hrets]
      | some xs =>
        simp only
        rw [zeroFill_comm h _ s hrets, zeroFill_comm h _ _ (fun a ha => h.sameFrame (hargs a ha) hf1),
          stepCore_comm h _ _ _ _ _ (fun a ha => h.sameFrame (hargs a ha) hf2),
          h.inval (h.sameFrame hD (hf2.trans (stepCore_sameFrame T _ _ _ _ _)))]

theorem sweep_comm (h : Transparent T m D) : ∀ (k : Nat) (s : State τ), (∀ i, i < k → D i s) →
    sweep T k (m s) = (m (sweep T k s).1, (sweep T k s).2) := by
  intro k
  induction k with
  | zero => intro s _; rfl
  | succ k ih =>
    intro s hD
    simp only [sweep]
    rw [backwardStep_comm h s k (hD k (Nat.lt_succ_self k))]
    have hf := backwardStep_sameFrame T s k
    rcases hb : backwardStep T s k with ⟨s1, r⟩
    rw [hb] at hf
    cases r with
    | error e => rfl
    | ok u => cases u; exact ih s1 (fun i hi => h.sameFrame (hD i (Nat.lt_succ_of_lt hi)) hf)

theorem backward_comm (h : Transparent T m D) (s : State τ) (a : Addr) (hD : ∀ i, i ≤ a.oid → D i s) :
    backward T (m s) a = (m (backward T s a).1, (backward T s a).2) := by
  have hDa := hD a.oid (Nat.le_refl _)
  simp only [backward_eq]
  rw [h.validAddr hDa, fwdPhase_comm T h.toFwdTransparent a s hDa]
  split
  · rfl
  · have hf := fwdPhase_fwdFrame T s a
    rcases hp : fwdPhase T s a with ⟨s1, r⟩
    rw [hp] at hf
    cases r with
    | error e => rfl
    | ok u =>
      cases u
      simp only at hf ⊢
      have hD1 : ∀ i, i ≤ a.oid → D i s1 := fun i hi => h.fwdFrame (hD i hi) hf
      rw [show seed T (m s1) a = m (seed T s1 a) from h.upd a _ (hD1 a.oid (Nat.le_refl _))]
      exact sweep_comm h _ _ (fun i hi => h.sameFrame (hD1 i (Nat.le_of_lt_succ hi)) (seed_sameFrame T s1 a))

end transparent

/-! ### parameter gradients: `backward` only adds -/

theorem mapPG_storeValues (f : (Nat → τ) → (Nat → τ)) (s : State τ) (k : Nat) (vals : List τ) :
    (s.mapPG f).storeValues k vals = (s.storeValues k vals).mapPG f := by
  unfold State.storeValues State.mapPG
  simp only
  split <;> rfl

theorem evalSelf_mapPG (f : (Nat → τ) → (Nat → τ)) (kind : Kind τ) (n : NodeInfo τ) (a : Addr) (s : State τ)
    (xs : List τ) :
    evalSelf kind n a (s.mapPG f) xs = ((evalSelf kind n a s xs).1.mapPG f, (evalSelf kind n a s xs).2) :=
  evalSelf_comm (State.mapPG f) kind n a s xs rfl (by cases kind <;> rfl) rfl rfl
    (fun ys => mapPG_storeValues f { (s.tick kind) with
      rndPos := if kind.isRnd then s.rndPos + 1 else s.rndPos, log := s.log ++ [a.oid] } a.oid ys)

theorem mapPG_fwdTransparent (f : (Nat → τ) → (Nat → τ)) : FwdTransparent (State.mapPG f) (fun _ _ => True) :=
  ⟨fun _ => rfl, fun _ => rfl, fun _ _ _ _ => trivial, fun _ _ => trivial,
   fun a kind n xs _ => evalSelf_mapPG f kind n a _ xs⟩

/-- `h ↦ g + h`, pointwise over the parameters -/
def shiftG (T : TOps τ) (g : Nat → τ) : (Nat → τ) → (Nat → τ) := fun h p => T.add (g p) (h p)

/-- a prior gradient `g` stays in front of everything the sweep accumulates, `add` being associative -/
theorem shiftG_transparent (T : TOps τ) (hassoc : ∀ x y z : τ, T.add (T.add x y) z = T.add x (T.add y z))
    (g : Nat → τ) : Transparent T (State.mapPG (shiftG T g)) (fun _ _ => True) where
  toFwdTransparent := mapPG_fwdTransparent _
  upd := fun {s} a f _ => by unfold State.updNode State.mapPG; simp only; split <;> rfl
  inval := fun {k s} _ => by unfold invalidateGrads State.mapPG; simp only; split <;> rfl
  padd := fun s p c => by
    simp only [State.mapPG, shiftG]
    congr 2
    funext q
    by_cases hq : q = p
    · simp [hq, hassoc, shiftG]
    · simp [hq, shiftG]

theorem backward_shift (T : TOps τ) (hassoc : ∀ x y z : τ, T.add (T.add x y) z = T.add x (T.add y z))
    (g : Nat → τ) (a : Addr) (s : State τ) :
    backward T (s.mapPG (shiftG T g)) a = ((backward T s a).1.mapPG (shiftG T g), (backward T s a).2) :=
  backward_comm (shiftG_transparent T hassoc g) s a (fun _ _ => trivial)

def AllGradsInvalid (s : State τ) : Prop := ∀ a, s.gradAt a = none

/-- all valid node gradients belong to operators with id `< k` -/
def GradsBelow (k : Nat) (s : State τ) : Prop := ∀ a : Addr, k ≤ a.oid → s.gradAt a = none

theorem FwdFrame.allGradsInvalid {s s' : State τ} (hf : FwdFrame s s') (hg : AllGradsInvalid s) :
    AllGradsInvalid s' := fun b => by rw [gskel_gradAt hf.gskel]; exact hg b

theorem ArgsBelow.argsOf {s : State τ} (hw : ArgsBelow s) {k : Nat} {a : Addr} (ha : a ∈ s.argsOf k) :
    a.oid < k := by
  unfold State.argsOf at ha
  cases ho : s.ops[k]? with
  | none => rw [ho] at ha; cases ha
  | some o => rw [ho] at ha; exact hw k o ho a ha

theorem backwardStep_gradsBelow (T : TOps τ) (k : Nat) (s s1 : State τ) (hg : GradsBelow (k + 1) s)
    (hw : ArgsBelow s) (hb : backwardStep T s k = (s1, .ok ())) : GradsBelow k s1 := by
  intro a ha
  cases hga : s1.gradAt a with
  | none => rfl
  | some g =>
    have hm : s1 ∈ stepPoints T s k := by have := backwardStep_mem_stepPoints T s k; rwa [hb] at this
    have hne : a.oid ≠ k := fun e => by
      have := backwardStep_gradAt_self T hb a.vid
      rw [← e, hga] at this; cases this
    have := stepPoints_live T (fun b => b.oid ≤ k)
      (fun b hb => Nat.le_of_lt_succ (Nat.lt_of_not_le fun hle => by rw [hg b hle] at hb; cases hb))
      (fun _ _ b hb => hb.elim Nat.le_of_eq fun hm => Nat.le_of_lt (hw.argsOf hm)) s1 hm a (by rw [hga]; rfl)
    omega

theorem sweep_gradsBelow (T : TOps τ) (k : Nat) (s s' : State τ) (hg : GradsBelow k s) (hw : ArgsBelow s)
    (hs : sweep T k s = (s', .ok ())) : AllGradsInvalid s' :=
  sweep_ind T (fun k s => GradsBelow k s ∧ ArgsBelow s) (fun r => ∀ s', r = (s', .ok ()) → AllGradsInvalid s')
    (fun s h s' e => by cases e; exact fun a => h.1 a (Nat.zero_le _))
    (fun k s s1 h hb => ⟨backwardStep_gradsBelow T k s s1 h.1 h.2 hb,
      view_argsBelow (by have := backwardStep_sameFrame T s k; rw [hb] at this; exact this.skel) h.2⟩)
    (fun _ _ _ _ _ _ _ e => by cases e) k s ⟨hg, hw⟩ s' hs

theorem gradsBelow_seed (T : TOps τ) (s : State τ) (a : Addr) (h : AllGradsInvalid s) :
    GradsBelow (a.oid + 1) (seed T s a) := by
  intro b hb
  rw [gradAt_seed]
  have : b ≠ a := fun e => by rw [e] at hb; omega
  simp [this, h b]

theorem backward_allGradsInvalid (T : TOps τ) (s s' : State τ) (a : Addr) (hg : AllGradsInvalid s)
    (hw : ArgsBelow s) (hb : backward T s a = (s', .ok ())) : AllGradsInvalid s' := by
  refine backward_cases T s a (fun r => r = (s', .ok ()) → AllGradsInvalid s') (fun _ e => by cases e)
    (fun _ _ _ _ e => by cases e) (fun s1 _ hf _ hs => ?_) hb
  exact sweep_gradsBelow T _ _ s' (gradsBelow_seed T s1 a (hf.allGradsInvalid hg))
    (view_argsBelow (seed_sameFrame T s1 a).skel (view_argsBelow hf.gskel hw)) hs

theorem backward_argsBelow (T : TOps τ) (s : State τ) (a : Addr) (h : ArgsBelow s) :
    ArgsBelow (backward T s a).1 :=
  view_argsBelow (backward_sameFrame T s a).skel (view_argsBelow (fwdPhase_fwdFrame T s a).gskel h)

/-- every valid node gradient sits on an ancestor of operator `t` -/
def OnlyAnc (args : Nat → List Addr) (t : Nat) (s : State τ) : Prop :=
  ∀ b, (s.gradAt b).isSome = true → Anc args b.oid t

theorem enabled_anc {s : State τ} {k t : Nat} {o : OpInfo τ} {args : Nat → List Addr} (ho : s.ops[k]? = some o)
    (he : ¬ (!o.enabled) = true) (h : OnlyAnc args t s) : Anc args k t := by
  obtain ⟨j, hj⟩ := (enabled_iff ho).mp (by simpa using he)
  exact h ⟨k, j⟩ hj

/-- `args` is the argument table of the graph, which no iteration changes -/
theorem onlyAnc_backwardStep (T : TOps τ) (t k : Nat) {s : State τ} {args : Nat → List Addr}
    (hargs : s.argsOf = args) (h : OnlyAnc args t s) : OnlyAnc args t (backwardStep T s k).1 := by
  subst hargs
  exact stepPoints_live T (fun b => Anc s.argsOf b.oid t) h
    (fun j hj b hb => hb.elim (fun e => e ▸ h ⟨k, j⟩ hj) (h ⟨k, j⟩ hj).arg) _ (backwardStep_mem_stepPoints T s k)

theorem backwardStep_pgrad (T : TOps τ) (t k p : Nat) {s : State τ} {args : Nat → List Addr}
    (h : OnlyAnc args t s)
    (hp : ∀ i, s.kindAt i = some (.param p) → ¬ Anc args i t) :
    (backwardStep T s k).1.params.grad p = s.params.grad p := by
  rcases backwardStep_pgrad_cases T s k p with h0 | ⟨o, _, _, ho, he, hk, _, _⟩
  · exact h0
  · obtain ⟨j, hj⟩ := (enabled_iff ho).mp he
    exact absurd (h ⟨k, j⟩ hj) (hp k (by simp [State.kindAt, ho, hk]))

theorem onlyAnc_seed (T : TOps τ) (s : State τ) (a : Addr) {args : Nat → List Addr} (h : AllGradsInvalid s) :
    OnlyAnc args a.oid (seed T s a) := by
  intro b hb
  rw [gradAt_seed] at hb
  by_cases hba : b = a
  · rw [hba]; exact Anc.refl _
  · simp [hba, h b] at hb

/-- The gradient of parameter `p` is not changed by `backward` if no iteration of the loop changes it that
starts in a state satisfying `I`, where `I` holds after the seed and is kept by the iterations (on the
states of the shape of `s`, the only ones the loop meets). -/
theorem backward_pgrad_of_inv (T : TOps τ) (s : State τ) (a : Addr) (p : Nat) (I : State τ → Prop)
    (hseed : ∀ s1, FwdFrame s s1 → I (seed T s1 a))
    (hstep : ∀ s' k, s'.shape = s.shape → I s' →
      I (backwardStep T s' k).1 ∧ (backwardStep T s' k).1.params.grad p = s'.params.grad p) :
    (backward T s a).1.params.grad p = s.params.grad p := by
  refine backward_cases T s a (fun r => r.1.params.grad p = s.params.grad p) (fun _ => rfl)
    (fun s1 _ hf _ => congrArg (·.grad p) hf.params) (fun s1 _ hf _ => ?_)
  have hsh : (seed T s1 a).shape = s.shape :=
    (shape_of_skel (seed_sameFrame T s1 a).skel).trans (shape_of_gskel hf.gskel)
  exact (sweep_inv T (fun s' => s'.shape = s.shape ∧ I s' ∧ s'.params.grad p = s.params.grad p)
    (fun k s' ⟨hs, hi, hg⟩ => ⟨(shape_of_skel (backwardStep_sameFrame T s' k).skel).trans hs,
      (hstep s' k hs hi).1, (hstep s' k hs hi).2.trans hg⟩)
    _ _ ⟨hsh, hseed s1 hf, by rw [seed_params, hf.params]⟩).2.2

theorem ops_eq_of_skel_grad {s s' : State τ} (h : s'.skel = s.skel) (hg : ∀ a, s'.gradAt a = s.gradAt a) :
    s'.ops = s.ops := by
  apply List.ext_getElem?
  intro i
  cases ho : s.ops[i]? with
  | none => exact view_op_none h ho
  | some o =>
    obtain ⟨o', ho', hk, ha, hr⟩ := view_op_some h ho
    rw [ho']
    have hrets : o'.rets = o.rets := by
      apply List.ext_getElem?
      intro j
      have h1 : (o'.rets[j]?).map NodeInfo.skel = (o.rets[j]?).map NodeInfo.skel := by
        simpa using congrArg (·[j]?) hr
      have h2 := hg ⟨i, j⟩
      simp only [State.gradAt, ops_getElem?_node? ho', ops_getElem?_node? ho] at h2
      rcases hn' : o'.rets[j]? with _ | n' <;> rcases hn : o.rets[j]? with _ | n <;> rw [hn', hn] at h1 h2 <;>
        simp at h1 ⊢
      cases n'; cases n; simp_all [NodeInfo.skel]
    cases o'; cases o; simp_all

/-- a state whose node gradients are all invalid is determined by its frame and parameter gradients -/
theorem eq_mapPG_of_sameFrame {s s' : State τ} (h : SameFrame s s') (hg : AllGradsInvalid s)
    (hg' : AllGradsInvalid s') : s' = s.mapPG (fun _ => s'.params.grad) := by
  have hops := ops_eq_of_skel_grad h.skel (fun a => by rw [hg a, hg' a])
  have h2 := h.pvalue; have h3 := h.log; have h4 := h.rndPos; have h5 := h.sample; have h6 := h.failIn
  cases s' with
  | mk ops' params' log' rndPos' sample' failIn' =>
    cases params'
    cases s with
    | mk ops params log rndPos sample failIn =>
      cases params
      simp_all [State.mapPG]

/-- `g + d + … + d` (`k` times), nested to the left as the sweep accumulates -/
def addN (T : TOps τ) : Nat → τ → τ → τ
  | 0, g, _ => g
  | k + 1, g, d => T.add (addN T k g d) d

theorem addN_add (T : TOps τ) (k : Nat) (g d : τ) : addN T k (T.add g d) d = addN T (k + 1) g d := by
  induction k with
  | zero => rfl
  | succ k ih => simp only [addN] at ih ⊢; rw [ih]

/-- `k` consecutive calls of `backward` on the same node -/
def iterBackward (T : TOps τ) (a : Addr) : Nat → State τ → State τ
  | 0, s => s
  | k + 1, s => iterBackward T a k (backward T s a).1

theorem mapPG_mapPG (f f' : (Nat → τ) → (Nat → τ)) (s : State τ) :
    (s.mapPG f).mapPG f' = s.mapPG (fun g => f' (f g)) := rfl

theorem mapPG_node (f : (Nat → τ) → (Nat → τ)) (s : State τ) : (s.mapPG f).node? = s.node? := rfl
theorem mapPG_validAddr (f : (Nat → τ) → (Nat → τ)) (s : State τ) : (s.mapPG f).validAddr = s.validAddr := rfl

theorem mapPG_allGradsInvalid (f : (Nat → τ) → (Nat → τ)) {s : State τ} (h : AllGradsInvalid s) :
    AllGradsInvalid (s.mapPG f) := h

theorem mapPG_argsBelow (f : (Nat → τ) → (Nat → τ)) {s : State τ} (h : ArgsBelow s) :
    ArgsBelow (s.mapPG f) := h

/-- the result from any prior gradients `g` is `g` plus the result from the neutral gradients `z` -/
theorem backward_mapPG (T : TOps τ) (hassoc : ∀ x y z : τ, T.add (T.add x y) z = T.add x (T.add y z))
    (s : State τ) (a : Addr) (z : Nat → τ) (hz : ∀ p x, T.add x (z p) = x) (g : Nat → τ) :
    backward T (s.mapPG fun _ => g) a =
      ((backward T (s.mapPG fun _ => z) a).1.mapPG (shiftG T g),
       (backward T (s.mapPG fun _ => z) a).2) := by
  rw [← backward_shift T hassoc g a (s.mapPG fun _ => z), mapPG_mapPG]
  have : (fun _ : Nat → τ => shiftG T g z) = fun _ => g := by
    funext _ p; exact hz p _
  rw [this]

theorem backward_mapPG_grad (T : TOps τ) (hassoc : ∀ x y z : τ, T.add (T.add x y) z = T.add x (T.add y z))
    (s : State τ) (a : Addr) (z : Nat → τ) (hz : ∀ p x, T.add x (z p) = x) (g : Nat → τ) (p : Nat) :
    (backward T (s.mapPG fun _ => g) a).1.params.grad p =
      T.add (g p) ((backward T (s.mapPG fun _ => z) a).1.params.grad p) := by
  rw [backward_mapPG T hassoc s a z hz g]
  rfl

theorem backward_adds_gen (T : TOps τ) (hassoc : ∀ x y z : τ, T.add (T.add x y) z = T.add x (T.add y z))
    (s : State τ) (a : Addr) (z : Nat → τ) (hz : ∀ p x, T.add x (z p) = x) :
    backward T s a =
      ((backward T (s.mapPG fun _ => z) a).1.mapPG (shiftG T s.params.grad),
       (backward T (s.mapPG fun _ => z) a).2) :=
  backward_mapPG T hassoc s a z hz s.params.grad

/-- when the forward phase is a no-op, a successful `backward` from all-invalid node gradients changes
the parameter gradients only -/
theorem backward_eq_mapPG (T : TOps τ) (s : State τ) (a : Addr) (hg : AllGradsInvalid s) (hw : ArgsBelow s)
    (hstable : fwdPhase T s a = (s, .ok ())) (hok : (backward T s a).2 = .ok ()) :
    (backward T s a).1 = s.mapPG (fun _ => (backward T s a).1.params.grad) := by
  have hb : backward T s a = ((backward T s a).1, .ok ()) := by rw [← hok]
  have hf := backward_sameFrame T s a
  rw [hstable] at hf
  exact eq_mapPG_of_sameFrame hf hg (backward_allGradsInvalid T s _ a hg hw hb)

/-- `k` calls from any prior gradients `g`, the forward phase being a no-op: each call adds the same `D`,
the result from the neutral gradients `z` -/
theorem iterBackward_stable (T : TOps τ) (hassoc : ∀ x y z : τ, T.add (T.add x y) z = T.add x (T.add y z))
    (s : State τ) (a : Addr) (z : Nat → τ) (hz : ∀ p x, T.add x (z p) = x)
    (hg : AllGradsInvalid s) (hw : ArgsBelow s)
    (hstable : fwdPhase T s a = (s, .ok ())) (hok : (backward T s a).2 = .ok ()) (k : Nat) (g : Nat → τ) :
    iterBackward T a k (s.mapPG fun _ => g) =
      s.mapPG (fun _ p => addN T k (g p) ((backward T (s.mapPG fun _ => z) a).1.params.grad p)) := by
  have hok0 : (backward T (s.mapPG fun _ => z) a).2 = .ok () := by
    rw [backward_adds_gen T hassoc s a z hz] at hok; exact hok
  have hst0 : fwdPhase T (s.mapPG fun _ => z) a = (s.mapPG (fun _ => z), .ok ()) := by
    rw [fwdPhase_comm T (mapPG_fwdTransparent _) a s trivial, hstable]
  have hr0 := backward_eq_mapPG T (s.mapPG fun _ => z) a hg hw hst0 hok0
  induction k generalizing g with
  | zero => rfl
  | succ k ih =>
    have one : backward T (s.mapPG fun _ => g) a =
        (s.mapPG (fun _ p => T.add (g p) ((backward T (s.mapPG fun _ => z) a).1.params.grad p)), .ok ()) := by
      rw [backward_mapPG T hassoc s a z hz g, hok0, hr0]
      rfl
    simp only [iterBackward]
    rw [one]
    simp only
    rw [ih]
    congr 1
    funext _ p
    exact addN_add T k _ _

/-! ### operators after the target -/

theorem appendOps_updNode (s : State τ) (e : List (OpInfo τ)) (a : Addr) (f : NodeInfo τ → NodeInfo τ)
    (h : a.oid < s.ops.length) : (s.appendOps e).updNode a f = (s.updNode a f).appendOps e := by
  unfold State.updNode
  rw [appendOps_getElem? s e h]
  cases s.ops[a.oid]? with
  | none => rfl
  | some o => simp [State.appendOps, h]

theorem appendOps_invalidateGrads (s : State τ) (e : List (OpInfo τ)) (k : Nat) (h : k < s.ops.length) :
    invalidateGrads (s.appendOps e) k = (invalidateGrads s k).appendOps e := by
  unfold invalidateGrads
  rw [appendOps_getElem? s e h]
  cases s.ops[k]? with
  | none => rfl
  | some o => simp [State.appendOps, h]

/-- operators appended to a graph whose arguments refer to smaller ids are neither read nor written by
`backward` on one of the graph's own nodes -/
theorem appendOps_transparent (T : TOps τ) (e : List (OpInfo τ)) :
    Transparent T (State.appendOps · e) (fun i s => i < s.ops.length ∧ ArgsBelow s) where
  get := fun hD => appendOps_getElem? _ e hD.1
  pvalue := fun _ => rfl
  args := fun hD ho b hb => ⟨Nat.lt_trans (hD.2 _ _ ho b hb) hD.1, hD.2⟩
  shape := fun hD hs => ⟨by rw [view_length hs]; exact hD.1, view_argsBelow hs hD.2⟩
  op := fun a kind n xs hD => evalSelf_appendOps e kind n xs hD.1
  upd := fun a f hD => appendOps_updNode _ e a f hD.1
  inval := fun hD => appendOps_invalidateGrads _ e _ hD.1
  padd := fun _ _ _ => rfl

/-! ### blocked paths -/

def shapeSize (sh : Shape τ) (b : Addr) : Nat :=
  match sh[b.oid]? with
  | some (_, _, rets) => match rets[b.vid]? with
    | some r => r
    | none => 0
  | none => 0

theorem shape_getElem? {s : State τ} {k : Nat} {o : OpInfo τ} (ho : s.ops[k]? = some o) :
    s.shape[k]? = some (o.kind, o.args, o.rets.map (·.size)) := by
  simp [State.shape, List.getElem?_map, ho]

theorem shapeSize_node {s : State τ} {b : Addr} {n : NodeInfo τ} (h : s.node? b = some n) :
    shapeSize s.shape b = n.size := by
  unfold State.node? at h
  cases ho : s.ops[b.oid]? with
  | none => rw [ho] at h; cases h
  | some o =>
    rw [ho] at h
    simp only at h
    simp [shapeSize, shape_getElem? ho, List.getElem?_map, h]

/-- the backward rule `sem` never contributes to its `j`-th argument (`stop_gradient`, `BACKWARD_NOP`) -/
def NoContrib (sem : OpSem τ) (j : Nat) : Prop :=
  ∀ xs ys gys c, (sem.bwd xs ys gys)[j]? ≠ some (some c)

/-- `Z` is a set of nodes from which the target can be reached only through blocked argument positions:
whenever a node of `Z` is an argument of an operator, that position is blocked or all results of the
operator are again in `Z` -/
def BlockedSet (sk : Shape τ) (Z : Addr → Prop) : Prop :=
  ∀ (i : Nat) (kind : Kind τ) (args : List Addr) (rets : List Nat),
    sk[i]? = some (kind, args, rets) → ∀ sem, kind = .op sem →
    ∀ (j : Nat) (b : Addr), args[j]? = some b → Z b →
      NoContrib sem j ∨ ∀ j', j' < rets.length → Z ⟨i, j'⟩

/-- exact arithmetic: a backward rule fed with zero gradients contributes zeros -/
def ZeroPreserving (T : TOps τ) (sk : Shape τ) (Z : Addr → Prop) : Prop :=
  ∀ (i : Nat) (kind : Kind τ) (args : List Addr) (rets : List Nat),
    sk[i]? = some (kind, args, rets) → ∀ sem, kind = .op sem →
    (∀ j', j' < rets.length → Z ⟨i, j'⟩) →
    ∀ (xs ys : List τ) (j : Nat) (b : Addr) (c : τ), args[j]? = some b → Z b →
      (sem.bwd xs ys (rets.map fun r => T.zeros r))[j]? = some (some c) → c = T.zeros (shapeSize sk b)

/-- every node of `Z` has an invalid gradient or the exact zero of its size -/
def ZInv (T : TOps τ) (sk : Shape τ) (Z : Addr → Prop) (s : State τ) : Prop :=
  ∀ b, Z b → s.gradAt b = none ∨ s.gradAt b = some (T.zeros (shapeSize sk b))

/-- the zero-filled gradient of a node of `Z` is the zero of its size (`sk` is the shape of the graph) -/
theorem ZInv.getD {T : TOps τ} {sk : Shape τ} {Z : Addr → Prop} {s : State τ} (h : ZInv T sk Z s)
    (hsk : s.shape = sk) {b : Addr} (hb : Z b) {n : NodeInfo τ} (hn : s.node? b = some n) :
    n.grad.getD (T.zeros n.size) = T.zeros n.size := by
  have := h b hb
  simp only [State.gradAt, hn, Option.bind_some, ← hsk, shapeSize_node hn] at this
  rcases this with h0 | h0 <;> simp [h0]

theorem zeroFill_zinv (T : TOps τ) (Z : Addr → Prop) {sk : Shape τ} {s : State τ} (hsk : s.shape = sk)
    (l : List Addr) (h : ZInv T sk Z s) : ZInv T sk Z (zeroFill T s l) := by
  intro b hb
  rw [gradAt_zeroFill]
  split
  · cases hn : s.node? b with
    | none => exact .inl rfl
    | some n => right; rw [Option.map_some, h.getD hsk hb hn, ← hsk, shapeSize_node hn]
  · exact h b hb

theorem accGrads_zero (T : TOps τ) (z : τ) (hzz : T.add z z = z) (b : Addr) (l : List (Addr × Option τ)) :
    ∀ (G : Addr → Option τ), (∀ c, (b, some c) ∈ l → c = z) → (G b = none ∨ G b = some z) →
      (accGrads T G l b = none ∨ accGrads T G l b = some z) := by
  induction l with
  | nil => intro G _ h; exact h
  | cons x rest ih =>
    intro G hl hG
    obtain ⟨a, c⟩ := x
    have hr : ∀ c, (b, some c) ∈ rest → c = z := fun c hc => hl c (List.mem_cons_of_mem _ hc)
    cases c with
    | none => exact ih G hr hG
    | some c =>
      simp only [accGrads]
      apply ih _ hr
      by_cases hba : b = a
      · subst hba
        have hc : c = z := hl c (by simp)
        simp only [if_true]
        rcases hG with h0 | h0
        · left; simp [h0]
        · right; simp [h0, hc, hzz]
      · simp only [hba, if_false]; exact hG

theorem gys_zero (T : TOps τ) (Z : Addr → Prop) {s : State τ} {k : Nat} {o : OpInfo τ}
    (ho : s.ops[k]? = some o) (h : ZInv T s.shape Z s) (hall : ∀ j', j' < o.rets.length → Z ⟨k, j'⟩) :
    o.gys T = (o.rets.map (·.size)).map fun r => T.zeros r := by
  unfold OpInfo.gys
  rw [List.map_map]
  apply List.map_congr_left
  intro n hn
  obtain ⟨j, hj⟩ := List.mem_iff_getElem?.mp hn
  exact h.getD rfl (hall j (List.getElem?_eq_some_iff.mp hj).1) ((ops_getElem?_node? ho j).trans hj)

/-- `sk` is the shape of the graph, which no iteration changes -/
theorem backwardStep_zinv (T : TOps τ) (hz : ∀ n x, T.add x (T.zeros n) = x) (Z : Addr → Prop) (k : Nat)
    {s : State τ} {sk : Shape τ} (hsk : s.shape = sk) (hB : BlockedSet sk Z) (hP : ZeroPreserving T sk Z)
    (h : ZInv T sk Z s) : ZInv T sk Z (backwardStep T s k).1 := by
  subst hsk
  rw [backwardStep_eq]
  cases ho : s.ops[k]? with
  | none => exact h
  | some o =>
    simp only
    by_cases he : (!o.enabled) = true
    · rw [if_pos he]; exact h
    · rw [if_neg he]
      have h1 := zeroFill_zinv T Z rfl (retAddrs k o) h
      cases hxs : o.args.mapM s.valueOf? with
      | none => exact h1
      | some xs =>
        simp only
        have h2 := zeroFill_zinv T Z (shape_of_skel (zeroFill_sameFrame T (retAddrs k o) s).skel) o.args h1
        intro b hb
        rw [gradAt_invalidateGrads]
        by_cases hbk : b.oid = k
        · left; simp [hbk]
        · simp only [hbk, if_false]
          unfold stepCore
          cases hkind : o.kind with
          | param p => simp only; split <;> exact h2 b hb
          | rnd => exact h2 b hb
          | op sem =>
            simp only
            rw [gradAt_addContribs]
            apply accGrads_zero T _ (hz _ _) b _ _ _ (h2 b hb)
            intro c hc
            obtain ⟨j, hj⟩ := List.mem_iff_getElem?.mp hc
            rw [List.getElem?_zip_eq_some] at hj
            obtain ⟨hja, hjc⟩ := hj
            have hsk := shape_getElem? ho
            rcases hB k _ _ _ hsk sem hkind j b hja hb with hno | hall
            · exact absurd hjc (hno _ _ _ _)
            · have hall' : ∀ j', j' < o.rets.length → Z ⟨k, j'⟩ := fun j' hj' => hall j' (by simpa using hj')
              rw [gys_zero T Z ho h hall'] at hjc
              exact hP k _ _ _ hsk sem hkind hall xs o.ys j b c hja hb hjc

theorem backwardStep_pgrad_blocked (T : TOps τ) (hz : ∀ n x, T.add x (T.zeros n) = x) (Z : Addr → Prop)
    (k p : Nat) {s : State τ} {sk : Shape τ} (hsk : s.shape = sk) (h : ZInv T sk Z s)
    (hp : ∀ i, s.kindAt i = some (.param p) → Z ⟨i, 0⟩) :
    (backwardStep T s k).1.params.grad p = s.params.grad p := by
  rcases backwardStep_pgrad_cases T s k p with h0 | ⟨o, n, rest, ho, _, hk, hr, heq⟩
  · exact h0
  · have hnode : s.node? ⟨k, 0⟩ = some n := by rw [ops_getElem?_node? ho, hr]; rfl
    rw [heq, h.getD hsk (hp k (by simp [State.kindAt, ho, hk])) hnode, hz]

theorem zinv_seed (T : TOps τ) (sk : Shape τ) (Z : Addr → Prop) (s : State τ) (a : Addr)
    (hg : AllGradsInvalid s) (ha : ¬ Z a) : ZInv T sk Z (seed T s a) := by
  intro b hb
  left
  rw [gradAt_seed]
  have : b ≠ a := fun e => ha (e ▸ hb)
  simp [this, hg b]

/-- the operations of a history on one graph and the parameters it uses -/
inductive Cmd (τ : Type) where
  | addOp (kind : Kind τ) (args : List Addr) (sizes : List Nat)
  | forward (a : Addr)
  | backward (a : Addr)
  /-- optimizer update, `Parameter::load`, … -/
  | setValue (p : Nat) (v : τ)
  /-- `reset_gradient`, or any other write to a parameter gradient from outside -/
  | setGrad (p : Nat) (g : τ)
  /-- fault-injection schedule of the harness -/
  | schedule (f : Option Nat)

/-- one operation; `none`: the process aborted (`CHECK_NODE`) or `backward` threw -/
def Cmd.run (T : TOps τ) (s : State τ) : Cmd τ → Option (State τ)
  | .addOp kind args sizes =>
    match addOperator s kind args sizes with
    | .ok (s', _) => some s'
    | .error _ => none
  | .forward a => some (Primitiv.Graph.forward T s a).1
  | .backward a =>
    match Primitiv.Graph.backward T s a with
    | (s', .ok ()) => some s'
    | (_, .error _) => none
  | .setValue p v => some { s with params := { s.params with value := fun q => if q = p then v else s.params.value q } }
  | .setGrad p g => some { s with params := { s.params with grad := fun q => if q = p then g else s.params.grad q } }
  | .schedule f => some { s with failIn := f }

def runHist (T : TOps τ) : State τ → List (Cmd τ) → Option (State τ)
  | s, [] => some s
  | s, c :: rest =>
    match c.run T s with
    | some s' => runHist T s' rest
    | none => none

/-- the invariant that makes backward passes independent of each other -/
def GInv (s : State τ) : Prop := AllGradsInvalid s ∧ ArgsBelow s

theorem allGradsInvalid_iff {s : State τ} :
    AllGradsInvalid s ↔ ∀ o ∈ s.ops, ∀ n ∈ o.rets, n.grad = none := by
  constructor
  · intro h o ho n hn
    obtain ⟨i, hi⟩ := List.mem_iff_getElem?.mp ho
    obtain ⟨j, hj⟩ := List.mem_iff_getElem?.mp hn
    simpa [State.gradAt, ops_getElem?_node? hi, hj] using h ⟨i, j⟩
  · intro h a
    unfold State.gradAt State.node?
    cases ho : s.ops[a.oid]? with
    | none => rfl
    | some o =>
      simp only
      cases hn : o.rets[a.vid]? with
      | none => rfl
      | some n => exact h o (List.mem_iff_getElem?.mpr ⟨_, ho⟩) n (List.mem_iff_getElem?.mpr ⟨_, hn⟩)

theorem addOperator_ginv (s s' : State τ) (kind : Kind τ) (args : List Addr) (sizes : List Nat) (i : Nat)
    (h : GInv s) (hr : addOperator s kind args sizes = .ok (s', i)) : GInv s' := by
  unfold addOperator at hr
  split at hr
  · rename_i hall
    cases hr
    constructor
    · rw [allGradsInvalid_iff]
      intro o ho n hn
      rcases List.mem_append.mp ho with ho | ho
      · exact allGradsInvalid_iff.mp h.1 o ho n hn
      · rw [List.mem_singleton.mp ho] at hn
        obtain ⟨_, _, rfl⟩ := List.mem_map.mp hn
        rfl
    · intro j o ho b hb
      simp only at ho
      by_cases hlt : j < s.ops.length
      · rw [List.getElem?_append_left hlt] at ho
        exact h.2 j o ho b hb
      · rw [List.getElem?_append_right (by omega)] at ho
        have hj : j - s.ops.length = 0 := by
          have := (List.getElem?_eq_some_iff.mp ho).1; simpa using this
        rw [hj] at ho
        simp only [List.getElem?_cons_zero, Option.some.injEq] at ho
        subst ho
        have := validAddr_lt (List.all_eq_true.mp hall b hb)
        omega
  · cases hr

theorem Cmd.run_ginv (T : TOps τ) (s s' : State τ) (c : Cmd τ) (h : GInv s) (hr : c.run T s = some s') :
    GInv s' := by
  cases c with
  | addOp kind args sizes =>
    simp only [Cmd.run] at hr
    split at hr
    · rename_i s'' i hres
      cases hr
      exact addOperator_ginv s s' kind args sizes i h hres
    · cases hr
  | forward a =>
    cases hr
    have hf := forward_fwdFrame T s a
    exact ⟨hf.allGradsInvalid h.1, view_argsBelow hf.gskel h.2⟩
  | backward a =>
    simp only [Cmd.run] at hr
    split at hr
    · rename_i s1 hb
      cases hr
      exact ⟨backward_allGradsInvalid T s s' a h.1 h.2 hb, by have := backward_argsBelow T s a h.2; rwa [hb] at this⟩
    · cases hr
  | setValue p v => cases hr; exact h
  | setGrad p g => cases hr; exact h
  | schedule f => cases hr; exact h

theorem runHist_ginv (T : TOps τ) (hist : List (Cmd τ)) : ∀ (s s' : State τ), GInv s →
    runHist T s hist = some s' → GInv s' := by
  induction hist with
  | nil => intro s s' h hr; simp only [runHist, Option.some.injEq] at hr; subst hr; exact h
  | cons c rest ih =>
    intro s s' h hr
    simp only [runHist] at hr
    cases hc : c.run T s with
    | none => rw [hc] at hr; cases hr
    | some s1 =>
      rw [hc] at hr
      exact ih s1 s' (Cmd.run_ginv T s s1 c h hc) hr

def emptyGraph (params : Params τ) (sample : Nat → Nat → τ) : State τ :=
  { ops := [], params := params, sample := sample }

theorem emptyGraph_ginv (params : Params τ) (sample : Nat → Nat → τ) : GInv (emptyGraph params sample) := by
  constructor
  · intro a; rfl
  · intro i o ho; cases ho

/-! ### decidable forms of the hypotheses, for concrete states -/

def State.gradsInvalidB (s : State τ) : Bool := s.ops.all fun o => o.rets.all fun n => n.grad.isNone

def State.argsBelowB (s : State τ) : Bool := s.ops.zipIdx.all fun x => x.1.args.all fun a => decide (a.oid < x.2)

theorem allGradsInvalid_of_B {s : State τ} (h : s.gradsInvalidB = true) : AllGradsInvalid s :=
  allGradsInvalid_iff.mpr (by simpa [State.gradsInvalidB, List.all_eq_true] using h)

theorem argsBelow_of_B {s : State τ} (h : s.argsBelowB = true) : ArgsBelow s := by
  intro i o ho a ha
  simp only [State.argsBelowB, List.all_eq_true] at h
  have hm : (o, i) ∈ s.ops.zipIdx := by
    apply List.mem_iff_getElem?.mpr
    exact ⟨i, by simp [List.getElem?_zipIdx, ho]⟩
  have := h (o, i) hm a ha
  simpa using this

/-! ### a concrete graph for the examples: `y = x * x`, one parameter, integer "tensors" -/

def TInt : TOps Int := { zeros := fun _ => 0, ones := fun _ => 1, add := (· + ·) }

def mulSem : OpSem Int where
  nret := 1
  fwd := fun xs => match xs with | [x, y] => some [x * y] | _ => none
  bwd := fun xs _ gys => match xs, gys with
    | [x, y], [g] => [some (g * y), some (g * x)]
    | _, _ => []

/-- operator 0: Parameter 0; operator 1: `n0 * n0`; parameter value 3, prior gradient 10 -/
def exSquare : State Int where
  ops := [ { kind := .param 0, args := [], rets := [{ size := 1 }] },
           { kind := .op mulSem, args := [⟨0, 0⟩, ⟨0, 0⟩], rets := [{ size := 1 }] } ]
  params := { value := fun _ => 3, grad := fun _ => 10 }
  sample := fun _ _ => 0

example : exSquare.gradsInvalidB = true := by decide
example : exSquare.argsBelowB = true := by decide
example : (backward TInt exSquare ⟨1, 0⟩).2 = .ok () := by rfl
example : (backward TInt exSquare ⟨1, 0⟩).1.params.grad 0 = 16 := by rfl
example : (backward TInt exSquare ⟨1, 0⟩).1.params.grad 0 = 16 := by decide

/-! ### a concrete graph with a blocked path: `y = stop_gradient(p0) + p1` -/

/-- `stop_gradient`: identity forward, `BACKWARD_NOP` -/
def stopSem : OpSem τ where
  nret := 1
  fwd := fun xs => match xs with | [x] => some [x] | _ => none
  bwd := fun _ _ _ => [none]

/-- `a + b`: the backward rule adds `gy` into both argument gradients -/
def addSem (T : TOps τ) : OpSem τ where
  nret := 1
  fwd := fun xs => match xs with | [x, y] => some [T.add x y] | _ => none
  bwd := fun _ _ gys => match gys with | [g] => [some g, some g] | _ => []

/-- operator 0: Parameter 0; 1: `stop_gradient(n0)`; 2: Parameter 1; 3: `n1 + n2` -/
def exBlocked (T : TOps τ) (v g : τ) : State τ where
  ops := [ { kind := .param 0, args := [], rets := [{ size := 1 }] },
           { kind := .op stopSem, args := [⟨0, 0⟩], rets := [{ size := 1 }] },
           { kind := .param 1, args := [], rets := [{ size := 1 }] },
           { kind := .op (addSem T), args := [⟨1, 0⟩, ⟨2, 0⟩], rets := [{ size := 1 }] } ]
  params := { value := fun _ => v, grad := fun _ => g }
  sample := fun _ _ => v

theorem exBlocked_kindAt (T : TOps τ) (v g : τ) (i : Nat) (h : (exBlocked T v g).kindAt i = some (.param 0)) :
    i = 0 := by
  match i, h with
  | 0, _ => rfl
  | 1, h => simp [State.kindAt, exBlocked] at h
  | 2, h => simp [State.kindAt, exBlocked] at h
  | 3, h => simp [State.kindAt, exBlocked] at h
  | i + 4, h => simp [State.kindAt, exBlocked] at h

theorem exBlocked_blockedSet (T : TOps τ) (v g : τ) :
    BlockedSet (exBlocked T v g).shape (fun b => b = ⟨0, 0⟩) := by
  intro i kind args rets h sem hk j b hj hb
  subst hb
  match i, h with
  | 0, h =>
    simp [State.shape, exBlocked] at h
    obtain ⟨_, rfl, _⟩ := h
    simp at hj
  | 1, h =>
    simp [State.shape, exBlocked] at h
    obtain ⟨rfl, rfl, _⟩ := h
    left
    cases hk
    have : j = 0 := by
      cases j with
      | zero => rfl
      | succ j => simp at hj
    subst this
    intro xs ys gys c
    simp [stopSem]
  | 2, h =>
    simp [State.shape, exBlocked] at h
    obtain ⟨_, rfl, _⟩ := h
    simp at hj
  | 3, h =>
    simp [State.shape, exBlocked] at h
    obtain ⟨_, rfl, _⟩ := h
    match j, hj with
    | 0, hj => simp at hj
    | 1, hj => simp at hj
    | j + 2, hj => simp at hj
  | i + 4, h => simp [State.shape, exBlocked] at h

theorem exBlocked_zeroPreserving (T : TOps τ) (v g : τ) :
    ZeroPreserving T (exBlocked T v g).shape (fun b => b = ⟨0, 0⟩) := by
  intro i kind args rets h sem hk hall xs ys j b c hj hb hc
  match i, h with
  | 0, h =>
    simp [State.shape, exBlocked] at h
    obtain ⟨rfl, _, _⟩ := h
    cases hk
  | 1, h =>
    simp [State.shape, exBlocked] at h
    obtain ⟨_, _, rfl⟩ := h
    have := hall 0 (by simp)
    simp at this
  | 2, h =>
    simp [State.shape, exBlocked] at h
    obtain ⟨rfl, _, _⟩ := h
    cases hk
  | 3, h =>
    simp [State.shape, exBlocked] at h
    obtain ⟨_, _, rfl⟩ := h
    have := hall 0 (by simp)
    simp at this
  | i + 4, h => simp [State.shape, exBlocked] at h

/-- gradients that count the `+=` executed on them -/
def TCount : TOps Nat := { zeros := fun _ => 0, ones := fun _ => 0, add := fun g _ => g + 1 }

example : (backward TCount (exBlocked TCount 0 0) ⟨3, 0⟩).1.params.grad 0 = 1 := by decide
example : (backward TInt (exBlocked TInt 3 10) ⟨3, 0⟩).1.params.grad 0 = 10 := by decide
example : (backward TInt (exBlocked TInt 3 10) ⟨3, 0⟩).1.params.grad 1 = 11 := by decide

end Primitiv.Graph
