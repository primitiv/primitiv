import PrimitivModel.Model.Cow
import PrimitivModel.Lemmas.Shape
/-
`NZ` (no axis of extent 0) is the one clause of `Shape.Canonical` (Lemmas/Shape.lean) that
keeps `update_dim` from dividing by 0, and `Keeps` the part of `Agree` that C07 needs.  The
cow protocol hands arbitrary `dims`, `ids` and axes to the shape rules, where the agreement
lemmas of C09 have side conditions (`pick_agree`: `ids.length < W`); and the invariant of the
specification pool (`PoolNZ`, CowSpec.lean) then has one clause to keep, not six.
-/
namespace Primitiv.Cow

def NZ (sh : Shape) : Prop := ∀ d ∈ sh.dims, d ≠ 0

def Keeps (r : R Shape) : Prop := r ≠ .error .crash ∧ ∀ c, r = .ok c → NZ c

theorem keeps_throw : Keeps throwError := ⟨by simp [throwError], by simp [throwError]⟩

theorem keeps_pure {c : Shape} (h : NZ c) : Keeps (pure c) :=
  ⟨by simp [pure, Except.pure], fun _ e => by cases e; exact h⟩

theorem get_ne_zero {sh : Shape} (h : NZ sh) (d : Nat) : sh.get d ≠ 0 := by
  unfold Shape.get
  rw [List.getD_eq_getElem?_getD]
  cases hg : sh.dims[d]? with
  | none => simp
  | some x => simp; exact h x (List.mem_of_getElem? hg)

theorem prodChk_nz {dims : List Nat} {v r : Nat} (h : Shape.prodChk dims v = some r) (hr : r ≠ 0) :
    ∀ d ∈ dims, d ≠ 0 := by
  intro d hd h0
  subst h0
  rw [ShapeL.prodChk_some h, ShapeL.prod_eq_zero_iff.2 hd, Nat.mul_zero] at hr
  exact hr rfl

theorem new_keeps (dims : List Nat) (batch : Nat) : Keeps (Shape.new dims batch) := by
  unfold Shape.new
  split
  · exact keeps_throw
  · split
    · exact keeps_throw
    · next vol hv =>
      split
      · exact keeps_throw
      · next hc => exact keeps_pure fun d hd => prodChk_nz hv (fun h0 => hc (Or.inl h0)) d (ShapeL.mem_trim hd)

theorem updateBatch_keeps {s : Shape} (hs : NZ s) (b : Nat) : Keeps (s.updateBatch b) := by
  unfold Shape.updateBatch
  split
  · exact keeps_throw
  · split
    · exact keeps_throw
    · exact keeps_pure hs

theorem updateDim_keeps {s : Shape} (hs : NZ s) (dim m : Nat) : Keeps (s.updateDim dim m) := by
  unfold Shape.updateDim
  split
  · exact keeps_throw
  · split
    · exact keeps_throw
    · next hm =>
      simp only [get_ne_zero hs dim, if_false]
      split
      · exact keeps_throw
      · refine keeps_pure fun d hd => ?_
        rcases List.mem_or_eq_of_mem_set (ShapeL.mem_trim hd) with hd' | hd'
        · split at hd'
          · rcases List.mem_append.1 hd' with hd' | hd'
            · exact hs d hd'
            · rw [List.eq_of_mem_replicate hd']; exact Nat.one_ne_zero
          · exact hs d hd'
        · -- the new extent, which the second guard found positive
          exact hd' ▸ hm

theorem reshape_keeps (a : Shape) {b : Shape} (hb : NZ b) : Keeps (ShapeOps.reshape a b) := by
  unfold ShapeOps.reshape
  split
  · exact keeps_throw
  · exact updateBatch_keeps hb _

theorem flatten_keeps (a : Shape) : Keeps (ShapeOps.flatten a) := new_keeps _ _

theorem concat1_keeps {sh : Shape} (hs : NZ sh) (dim : Nat) : Keeps (ShapeOps.concat [sh] dim) := by
  simp only [ShapeOps.concat, ShapeOps.concatLoop, bind, Except.bind, pure, Except.pure]
  split
  · exact keeps_throw
  · exact updateDim_keeps hs _ _

theorem bconcat1_keeps {sh : Shape} (hs : NZ sh) : Keeps (ShapeOps.batchConcat [sh]) := by
  simp only [ShapeOps.batchConcat, ShapeOps.batchConcatLoop, bind, Except.bind, pure, Except.pure]
  split
  · exact keeps_throw
  · exact updateBatch_keeps hs _

theorem reshape_size {a b c : Shape} (h : ShapeOps.reshape a b = .ok c) : c.size = a.size := by
  unfold ShapeOps.reshape at h
  split at h
  · simp [throwError] at h
  · next hc =>
    unfold Shape.resizeBatch Shape.updateBatch at h
    split at h
    · simp [throwError] at h
    · split at h
      · simp [throwError] at h
      · cases h
        have : a.volume = b.volume := Decidable.byContradiction fun hne => hc (Or.inl hne)
        simp only [Shape.size, this]

theorem flatten_size {a c : Shape} (h : ShapeOps.flatten a = .ok c) : c.size = a.size := by
  unfold ShapeOps.flatten Shape.new at h
  split at h
  · simp [throwError] at h
  · simp only [Shape.prodChk] at h
    split at h
    · simp [throwError] at h
    · next vol hv =>
      split at hv
      · simp at hv
      · simp at hv
        split at h
        · simp [throwError] at h
        · cases h; subst hv
          simp [Shape.size]

theorem bind_pure_ne_crash {α β : Type} {x : R α} (hx : x ≠ .error .crash) (f : α → β) :
    (do let r ← x; pure (f r)) ≠ .error .crash := by
  cases x with
  | error e => simpa [bind, Except.bind] using hx
  | ok r => simp [bind, Except.bind, pure, Except.pure]

theorem sliceBwOk_ne_crash (dim off : Nat) (sy sx : Shape) : sliceBwOk dim off sy sx ≠ .error .crash := by
  have hl : ∀ (s : Shape) (d : Nat), ∃ n, s.looLen d = .ok n := by
    intro s d; unfold Shape.looLen; split <;> exact ⟨_, rfl⟩
  obtain ⟨n1, h1⟩ := hl sy dim
  obtain ⟨n2, h2⟩ := hl sx dim
  simp [sliceBwOk, Shape.hasSameLooDims, h1, h2, bind, Except.bind, pure, Except.pure]

theorem flipBwOk_ne_crash (sy sx : Shape) : flipBwOk sy sx ≠ .error .crash := by
  simp [flipBwOk, pure, Except.pure]

theorem transposeBwOk_ne_crash (sy sx : Shape) : transposeBwOk sy sx ≠ .error .crash := by
  refine bind_pure_ne_crash ?_ _
  unfold ShapeOps.transpose
  split
  · exact keeps_throw.1
  · exact (new_keeps _ _).1

theorem abBwOk_ne_crash (sy sa sb : Shape) : abBwOk sy sa sb ≠ .error .crash := by
  refine bind_pure_ne_crash ?_ _
  unfold ShapeOps.elementwise Shape.resizeBatch Shape.updateBatch
  split
  · exact keeps_throw.1
  · split
    · exact keeps_throw.1
    · split <;> simp [throwError, pure, Except.pure]

theorem pickBwOk_ne_crash (dim : Nat) (ids : List Nat) (sy : Shape) {sx : Shape} (hx : NZ sx) :
    pickBwOk dim ids sy sx ≠ .error .crash := by
  refine bind_pure_ne_crash ?_ _
  unfold ShapeOps.pick
  dsimp only
  split
  · exact keeps_throw.1
  · split
    · exact keeps_throw.1
    · have hd := updateDim_keeps hx dim 1
      unfold Shape.resizeDim
      cases hr : sx.updateDim dim 1 with
      | error e => exact fun hc => hd.1 (hr.trans hc)
      | ok r => exact (updateBatch_keeps (hd.2 r hr) _).1

end Primitiv.Cow
