import PrimitivModel.Lemmas.GraphSweep
/-!
Which node gradients are live (valid) at which point of the reverse sweep of `Model/Graph.lean`:
the program points of the loop (`sweepPoints`, made of the `stepPoints` of its iterations;
`sweepTrace` keeps the last point of each completed iteration), the number of live gradient tensors
(`liveGrads`), and two graphs sharing their parameters (`withParams`).  For Props/C11 and C06.  Core Lean only.
-/
namespace Primitiv.Graph
variable {τ : Type}

/-- all program points of `sweep T k s`, each with the id of the operator being processed; the
list ends with the iteration that fails, if one does -/
def sweepPoints (T : TOps τ) : Nat → State τ → List (Nat × State τ)
  | 0, _ => []
  | k + 1, s =>
    (stepPoints T s k).map (fun s' => (k, s')) ++
      match backwardStep T s k with
      | (s1, .ok ()) => sweepPoints T k s1
      | (_, .error _) => []

/-- the states after each completed iteration of `sweep T k s`, with the id of the operator -/
def sweepTrace (T : TOps τ) : Nat → State τ → List (Nat × State τ)
  | 0, _ => []
  | k + 1, s =>
    match backwardStep T s k with
    | (s1, .ok ()) => (k, s1) :: sweepTrace T k s1
    | (_, .error _) => []

/-- `args` is the argument table of the graph, which no iteration changes -/
theorem sweepPoints_bounded (T : TOps τ) (t : Nat) (args : Nat → List Addr) : ∀ (k : Nat) (s : State τ),
    s.argsOf = args → ArgsBelow s → OnlyAnc args t s → GradsBelow k s →
    ∀ x ∈ sweepPoints T k s, ∀ b, (x.2.gradAt b).isSome = true → Anc args b.oid t ∧ b.oid ≤ x.1 := by
  intro k
  induction k with
  | zero => intro s _ _ _ _ x hx; cases hx
  | succ k ih =>
    intro s hargs hw ha hg x hx
    simp only [sweepPoints, List.mem_append, List.mem_map] at hx
    rcases hx with ⟨s', hs', rfl⟩ | hx
    · subst hargs
      have h0 : ∀ b, (s.gradAt b).isSome = true → Anc s.argsOf b.oid t ∧ b.oid ≤ k := fun b hb =>
        ⟨ha b hb, by
          have : ¬ (k + 1 ≤ b.oid) := fun hle => by rw [hg b hle] at hb; cases hb
          omega⟩
      -- the iteration makes live only gradients of operator `k`, if it is enabled, and of its arguments
      exact stepPoints_live T _ h0 (fun j hj b hb =>
        hb.elim (fun e => by rw [e]; exact ⟨(h0 ⟨k, j⟩ hj).1, Nat.le_refl _⟩)
          fun hm => ⟨(h0 ⟨k, j⟩ hj).1.arg hm, Nat.le_of_lt (hw.argsOf hm)⟩) s' hs'
    · have hf := backwardStep_sameFrame T s k
      have ha1 := onlyAnc_backwardStep T t k hargs ha
      rcases hb : backwardStep T s k with ⟨s1, r⟩
      rw [hb] at hx hf ha1
      cases r with
      | error e => cases hx
      | ok u =>
        cases u
        exact ih s1 ((view_argsOf hf.skel).trans hargs) (view_argsBelow hf.skel hw) ha1
          (backwardStep_gradsBelow T k s s1 hg hw hb) x hx

theorem sweepTrace_gradsBelow (T : TOps τ) : ∀ (k : Nat) (s : State τ), ArgsBelow s → GradsBelow k s →
    ∀ x ∈ sweepTrace T k s, GradsBelow x.1 x.2 := by
  intro k
  induction k with
  | zero => intro s _ _ x hx; cases hx
  | succ k ih =>
    intro s hw hg x hx
    rcases hb : backwardStep T s k with ⟨s1, r⟩
    simp only [sweepTrace, hb] at hx
    cases r with
    | error e => cases hx
    | ok u =>
      cases u
      simp only [List.mem_cons] at hx
      have hf := backwardStep_sameFrame T s k
      rw [hb] at hf
      have hg1 := backwardStep_gradsBelow T k s s1 hg hw hb
      rcases hx with rfl | hx
      · exact hg1
      · exact ih s1 (view_argsBelow hf.skel hw) hg1 x hx

theorem sweepTrace_complete (T : TOps τ) (k : Nat) (s s' : State τ) (hs : sweep T k s = (s', .ok ())) :
    (sweepTrace T k s).length = k ∧ (0 < k → (sweepTrace T k s).getLast? = some (0, s')) := by
  induction k generalizing s with
  | zero => exact ⟨rfl, fun h => absurd h (Nat.lt_irrefl 0)⟩
  | succ k ih =>
    rcases hb : backwardStep T s k with ⟨s1, r⟩
    cases r with
    | error e => rw [sweep_succ_err T hb] at hs; cases hs
    | ok u =>
      cases u
      rw [sweep_succ_ok T hb] at hs
      obtain ⟨h1, h2⟩ := ih s1 hs
      simp only [sweepTrace, hb, List.length_cons, h1, List.getLast?_cons, true_and]
      intro _
      cases k with
      | zero => rw [sweep_zero] at hs; cases hs; rfl
      | succ k => rw [h2 (Nat.succ_pos k)]; rfl

def liveGrads (s : State τ) : Nat := (s.ops.map fun o => o.rets.countP fun n => n.grad.isSome).sum

theorem liveGrads_eq_zero (s : State τ) : liveGrads s = 0 ↔ AllGradsInvalid s := by
  unfold liveGrads
  rw [List.sum_eq_zero_iff_forall_eq_nat, allGradsInvalid_iff]
  simp [List.countP_eq_zero]

/-- the graph `s` seen with the parameter table `ps` (parameters live outside graphs) -/
def State.withParams (s : State τ) (ps : Params τ) : State τ := { s with params := ps }

theorem backward_pvalue (T : TOps τ) (s : State τ) (a : Addr) :
    (backward T s a).1.params.value = s.params.value :=
  (backward_sameFrame T s a).pvalue.trans (congrArg (·.value) (fwdPhase_fwdFrame T s a).params)

theorem withParams_eq_mapPG (s : State τ) (ps : Params τ) (h : ps.value = s.params.value) :
    s.withParams ps = s.mapPG (fun _ => ps.grad) := by
  cases ps
  simp only at h
  subst h
  rfl

/-- a pass over a graph seen with any parameter table `ps` (same values): the gradients of `ps` plus
this graph's own `D` (the result from the zero gradients `z`); the graph's nodes and the outcome do
not depend on `ps.grad` -/
theorem backward_withParams (T : TOps τ) (hassoc : ∀ x y z : τ, T.add (T.add x y) z = T.add x (T.add y z))
    (s : State τ) (a : Addr) (z : Nat → τ) (hz : ∀ p x, T.add x (z p) = x) (ps : Params τ)
    (h : ps.value = s.params.value) :
    backward T (s.withParams ps) a =
      ((backward T (s.mapPG fun _ => z) a).1.mapPG (shiftG T ps.grad),
       (backward T (s.mapPG fun _ => z) a).2) := by
  rw [withParams_eq_mapPG s ps h]
  exact backward_mapPG T hassoc s a z hz ps.grad

/-- a pass over graph `sB` after a pass over graph `sA` with the same parameters: both derivatives (each
graph's result from the neutral gradients `z`) on top of the prior gradients; what the second pass does to
its own graph does not depend on the first having run -/
theorem backward_then (T : TOps τ) (hassoc : ∀ x y z : τ, T.add (T.add x y) z = T.add x (T.add y z))
    (sA sB : State τ) (a b : Addr) (z : Nat → τ) (hz : ∀ p x, T.add x (z p) = x)
    (hshare : sB.params.value = sA.params.value) :
    let rB := backward T (sB.withParams (backward T sA a).1.params) b
    (∀ p, rB.1.params.grad p =
      T.add (T.add (sA.params.grad p) ((backward T (sA.mapPG fun _ => z) a).1.params.grad p))
        ((backward T (sB.mapPG fun _ => z) b).1.params.grad p)) ∧
    rB.1.params.value = sA.params.value ∧
    rB.1.ops = (backward T sB b).1.ops ∧ rB.2 = (backward T sB b).2 := by
  have hv := (backward_pvalue T sA a).trans hshare.symm
  have h := backward_withParams T hassoc sB b z hz _ hv
  have hB := backward_adds_gen T hassoc sB b z hz
  refine ⟨fun p => ?_, (backward_pvalue T _ b).trans (backward_pvalue T sA a), by rw [h, hB]; rfl, by rw [h, hB]⟩
  rw [← backward_mapPG_grad T hassoc sA a z hz sA.params.grad p, h]
  rfl

end Primitiv.Graph
