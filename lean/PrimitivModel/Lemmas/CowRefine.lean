import PrimitivModel.Lemmas.CowInv
import PrimitivModel.Lemmas.CowKernel
import PrimitivModel.Lemmas.CowShape
/-
Every operation of the cow protocol, executed on the copy-on-write model, keeps
the invariant and has on the abstraction exactly the effect the pure-value
specification prescribes (`step_refines`).  Model and specification open an
operation with the same look at its operand slots (`guard_ref`, `some_ref`);
after it the operation either answers without changing anything (`Ref.same`) or
ends in one of the state changes of CowInv.lean (`replace_ref`, `allocInto_ref`,
`mutableHandle_write`).
-/
namespace Primitiv.Cow

theorem slot_cases (s : State) (h : Nat) :
    (getSlot s.pool h = none ∧ getSlot (absState s).pool h = none) ∨
    (getSlot s.pool h = some .invalid ∧ getSlot (absState s).pool h = some none) ∨
    ∃ sh b, getSlot s.pool h = some (.valid sh b) ∧ getSlot (absState s).pool h = some (some (sh, dataOf s.heap b)) := by
  rw [abs_get]
  match getSlot s.pool h with
  | none => exact .inl ⟨rfl, rfl⟩
  | some .invalid => exact .inr (.inl ⟨rfl, rfl⟩)
  | some (.valid sh b) => exact .inr (.inr ⟨sh, b, rfl, rfl⟩)

theorem guard_ref {s : State} (hs : Inv s) (h : Nat) {F : Shape → Nat → State × Out}
    {G : Shape → List Int → AState × Out}
    (hFG : ∀ sh b, getSlot s.pool h = some (.valid sh b) → Ref s (F sh b) (G sh (dataOf s.heap b))) :
    Ref s (match getSlot s.pool h with
           | none => (s, .noobj)
           | some .invalid => (s, .err)
           | some (.valid sh b) => F sh b)
      (match getSlot (absState s).pool h with
       | none => (absState s, .noobj)
       | some none => (absState s, .err)
       | some (some (sh, vs)) => G sh vs) := by
  rcases slot_cases s h with ⟨hc, ha⟩ | ⟨hc, ha⟩ | ⟨sh, b, hc, ha⟩ <;> simp only [hc, ha]
  · exact Ref.same hs _
  · exact Ref.same hs _
  · exact hFG sh b hc

/-- `guard_ref` for a specification that does not take the value apart -/
theorem guard_ref' {s : State} (hs : Inv s) (h : Nat) {oi : Out} {F : Shape → Nat → State × Out}
    {G : Shape × List Int → AState × Out}
    (hFG : ∀ sh b, getSlot s.pool h = some (.valid sh b) → Ref s (F sh b) (G (sh, dataOf s.heap b))) :
    Ref s (match getSlot s.pool h with
           | none => (s, .noobj)
           | some .invalid => (s, oi)
           | some (.valid sh b) => F sh b)
      (match getSlot (absState s).pool h with
       | none => (absState s, .noobj)
       | some none => (absState s, oi)
       | some (some v) => G v) := by
  rcases slot_cases s h with ⟨hc, ha⟩ | ⟨hc, ha⟩ | ⟨sh, b, hc, ha⟩ <;> simp only [hc, ha]
  · exact Ref.same hs _
  · exact Ref.same hs _
  · exact hFG sh b hc

theorem some_ref {s : State} (hs : Inv s) (h : Nat) {F : Handle → State × Out} {G : AVal → AState × Out}
    (hFG : ∀ v, getSlot s.pool h = some v → Ref s (F v) (G (absHandle s.heap v))) :
    Ref s (match getSlot s.pool h with
           | none => (s, .noobj)
           | some v => F v)
      (match getSlot (absState s).pool h with
       | none => (absState s, .noobj)
       | some v => G v) := by
  rw [abs_get]
  cases hg : getSlot s.pool h with
  | none => exact Ref.same hs _
  | some v => exact hFG v hg

theorem withShape_ref {s : State} (hs : Inv s) {dims : List Nat} {batch : Nat} {k : Shape → State × Out}
    {k' : Shape → AState × Out} (hk : ∀ sh, Shape.new dims batch = .ok sh → Ref s (k sh) (k' sh)) :
    Ref s (withShape s dims batch k) (Spec.withShape (absState s) dims batch k') := by
  unfold withShape Spec.withShape
  cases hn : Shape.new dims batch with
  | error e => cases e <;> exact Ref.same hs _
  | ok sh => exact hk sh hn

theorem copyOp_ref {s : State} (hs : Inv s) (h g : Nat) : Ref s (copyOp s h g) (Spec.copyOp (absState s) h g) :=
  some_ref hs h fun v hg => replace_ref hs g (some v) (storable_of_slot hs hg)

theorem viewOp_ref {s : State} (hs : Inv s) (h g : Nat) (rule : Shape → R Shape)
    (hrule : ∀ a c, rule a = .ok c → c.size = a.size) :
    Ref s (viewOp s h g rule) (Spec.viewOp (absState s) h g rule) := by
  refine guard_ref hs h fun sh b hc => ?_
  cases hr : rule sh with
  | error e => cases e <;> exact Ref.same hs _
  | ok rsh =>
    refine replace_ref hs g (some (.valid rsh b)) (fun sh' b' e => ?_)
    cases e
    obtain ⟨bf, hb, hl⟩ := hs.len h sh b hc
    exact ⟨bf, hb, by rw [hl, hrule sh rsh hr]⟩

theorem freshOp_ref {s : State} (hs : Inv s) (h g : Nat) (rule : Shape → R Shape) :
    Ref s (freshOp s h g rule) (Spec.freshOp (absState s) h g rule) := by
  refine guard_ref hs h fun sh b hc => ?_
  cases hr : rule sh with
  | error e => cases e <;> exact Ref.same hs _
  | ok rsh =>
    simp only [(hs.reads hc).val, (hs.reads hc).full]
    exact allocInto_ref hs g rsh _ (length_fitTo _ _)

theorem inplace1_ref {s : State} (hs : Inv s) {h : Nat} {sh : Shape} {b : Nat}
    (hh : getSlot s.pool h = some (.valid sh b)) (f : Nat → List Int → List Int)
    (hf : ∀ D : List Int, D.length = sh.size → (f sh.size D).length = sh.size) :
    Ref s (inplace1 s h f) (Spec.setT (absState s) h (some (some (sh, f sh.size (dataOf s.heap b)))), .ok) := by
  obtain ⟨b', hp', hd, _, hw⟩ := mutableHandle_write hs hh
  unfold inplace1
  simp only [hp', hd]
  exact hw _ (hf _ (hs.reads hh).len)

theorem inplace2_ref {s : State} (hs : Inv s) (f : Int → Int → Int) (h g : Nat) :
    Ref s (inplace2 f s h g) (Spec.inplace2 f (absState s) h g) := by
  unfold inplace2 Spec.inplace2
  rcases slot_cases s h with ⟨hc, ha⟩ | ⟨hc, ha⟩ | ⟨sy, bfy, hc, ha⟩ <;>
    rcases slot_cases s g with ⟨hc', ha'⟩ | ⟨hc', ha'⟩ | ⟨sx, bx, hc', ha'⟩ <;>
    simp only [hc, ha, hc', ha']
  -- of the 3 · 3 pairs of cases all but the last have an operand missing or invalid
  iterate 8 exact Ref.same hs _
  by_cases hcond : (!sx.hasSameDims sy || !sx.hasCompatibleBatch sy) = true
  · simp only [hcond, if_true]; exact Ref.same hs _
  · simp only [hcond, Bool.false_eq_true, if_false]
    obtain ⟨b', hp', hd, hoth, hw⟩ := mutableHandle_write hs hc
    have hl : ∀ src, (arith f sy sx (dataOf s.heap bfy) src).length = sy.size := fun src => by
      rw [length_arith]; exact (hs.reads hc).len
    by_cases hgh : g = h
    · -- `x += x`: the same object on both sides
      subst hgh
      rw [hc] at hc'; cases hc'
      rw [← arith_alias]
      simp only [hp', hd, if_true]
      exact hw _ (hl _)
    · obtain ⟨hne, hdx⟩ := hoth g sx bx hgh hc'
      simp only [hp', mutableHandle_pool s h hgh, hc', hd, hdx, Ne.symm hne, if_false]
      exact hw _ (hl _)

theorem accum_ref {s : State} (hs : Inv s) {dst src : Nat} (hne : dst ≠ src) {sd ss : Shape} {bd bs : Nat}
    (hd : getSlot s.pool dst = some (.valid sd bd)) (hsrc : getSlot s.pool src = some (.valid ss bs))
    (K : List Int → List Int → List Int) (hK : ∀ D S, (K D S).length = D.length) :
    Ref s (accum s dst src sd ss K) (Spec.accum (absState s) dst src K) := by
  obtain ⟨b', hp', hD, hoth, hw⟩ := mutableHandle_write hs hd
  obtain ⟨_, hS⟩ := hoth src ss bs (Ne.symm hne) hsrc
  unfold accum Spec.accum
  simp only [hp', mutableHandle_pool s dst (Ne.symm hne), hsrc, hD, hS, (hs.reads hd).abs, (hs.reads hsrc).abs]
  exact hw _ (by rw [hK]; exact (hs.reads hd).len)

theorem accum_pool (s : State) {dst : Nat} (src : Nat) (sd ss : Shape) (K : List Int → List Int → List Int)
    {j : Nat} (hj : j ≠ dst) : getSlot (accum s dst src sd ss K).1.pool j = getSlot s.pool j := by
  unfold accum
  dsimp only
  split
  · split <;> exact mutableHandle_pool s dst hj
  · exact mutableHandle_pool s dst hj

theorem bwOp_ref {s : State} (hs : Inv s) (gy gx : Nat) (ok : Shape → Shape → R Bool)
    (K : Shape → Shape → List Int → List Int → List Int)
    (hK : ∀ sy sx D S, (K sy sx D S).length = D.length) :
    Ref s (bwOp s gy gx ok K) (Spec.bwOp (absState s) gy gx ok K) := by
  unfold bwOp Spec.bwOp
  by_cases he : gy = gx
  · subst he
    rcases slot_cases s gy with ⟨hy, ay⟩ | ⟨hy, ay⟩ | ⟨sy, bfy, hy, ay⟩ <;> simp only [hy, ay, if_true] <;>
      exact Ref.same hs _
  · rcases slot_cases s gy with ⟨hy, ay⟩ | ⟨hy, ay⟩ | ⟨sy, bfy, hy, ay⟩ <;>
      rcases slot_cases s gx with ⟨hx, ax⟩ | ⟨hx, ax⟩ | ⟨sx, bx, hx, ax⟩ <;>
      simp only [hy, ay, hx, ax, he, if_false]
    -- as in `inplace2_ref`
    iterate 8 exact Ref.same hs _
    cases hok : ok sy sx with
    | error e => cases e <;> exact Ref.same hs _
    | ok b =>
      cases b with
      | false => exact Ref.same hs _
      | true => exact accum_ref hs (Ne.symm he) hx hy _ (hK sy sx)

/- Both sides ask first whether the three objects exist, then whether two of them are the same, and
only then whether all are valid: the case split follows these stages (`slot_cases`, which asks the
first and the third question at once, would meet the second in every case). -/
theorem abBwOp_ref {s : State} (hs : Inv s) (g : Int → Int → Int) (gy ga gb : Nat) :
    Ref s (abBwOp g s gy ga gb) (Spec.abBwOp g (absState s) gy ga gb) := by
  unfold abBwOp Spec.abBwOp
  rw [abs_get, abs_get, abs_get]
  cases hy : getSlot s.pool gy <;> cases ha : getSlot s.pool ga <;> cases hb : getSlot s.pool gb
  -- in all but the last of the 2³ cases an object is missing
  iterate 7 exact Ref.same hs _
  rename_i vy va vb
  simp only [Option.map]
  by_cases he : gy = ga ∨ gy = gb ∨ ga = gb
  · simp only [if_pos he]; exact Ref.same hs _
  · simp only [if_neg he]
    cases vy <;> cases va <;> cases vb
    -- in all but the last of the 2³ cases an object is invalid
    iterate 7 exact Ref.same hs _
    rename_i sy bfy sa ba sb bb
    simp only [absHandle]
    cases hok : abBwOk sy sa sb with
    | error e => cases e <;> exact Ref.same hs _
    | ok b =>
      cases b with
      | false => exact Ref.same hs _
      | true =>
        simp only []  -- `match Except.ok true with`
        have hne1 : ga ≠ gy := fun h => he (Or.inl h.symm)
        have r1 := accum_ref hs hne1 ha hy (fun D S => arith (· + ·) sa sy D (some S))
          (fun D S => length_arith _ _ _ _ _)
        have ho1 : (Spec.accum (absState s) ga gy (fun D S => arith (· + ·) sa sy D (some S))).2 = .ok := by
          unfold Spec.accum
          rw [(hs.reads ha).abs, (hs.reads hy).abs]
        rw [r1.out.trans ho1, ho1]
        simp only []  -- `match Out.ok with`
        -- it leaves `gy` and `gb` as they were
        have r2 := accum_ref r1.inv' (dst := gb) (src := gy) (fun h => he (Or.inr (Or.inl h.symm)))
          ((accum_pool s gy sa sy _ (fun h => he (Or.inr (Or.inr h.symm)))).trans hb)
          ((accum_pool s gy sa sy _ (Ne.symm hne1)).trans hy)
          (fun D S => arith g sb sy D (some S)) (fun D S => length_arith _ _ _ _ _)
        rw [r1.abs'] at r2
        exact r1.after r2

theorem readAll_ref {s : State} (l : List (Option Handle)) :
    ∀ (i : Nat), (∀ o ∈ l, ∀ sh b, o = some (.valid sh b) → ∃ bf, getSlot s.heap b = some bf ∧ bf.data.length = sh.size) →
    readAllFrom s i l = some (Spec.readAllFrom i (absPool s.heap l)) := by
  induction l with
  | nil => intro i _; rfl
  | cons o rest ih =>
    intro i hl
    have hrest := ih (i + 1) (fun o' ho' => hl o' (by simp [ho']))
    match o with
    | none => simp [readAllFrom, viewSlot, hrest, absPool, Spec.readAllFrom]
    | some .invalid => simp [readAllFrom, viewSlot, hrest, absPool, Spec.readAllFrom, absHandle]
    | some (.valid sh b) =>
      obtain ⟨bf, hb, hlen⟩ := hl _ (by simp) sh b rfl
      have htake : bf.data.take sh.size = bf.data := by rw [← hlen]; simp
      simp [readAllFrom, viewSlot, hrest, absPool, Spec.readAllFrom, absHandle, deref, hlen, htake, dataOf, hb]

/-- Every operation but `live`, which counts the buffers of the heap: the abstract state has none
and the specification answers `.nat 0`. -/
theorem step_ref {s : State} (hs : Inv s) (op : Op) (hop : op ≠ .live) :
    Ref s (step s op) (Spec.step (absState s) op) := by
  have hpv : (absState s).pvalid = s.pvalid := rfl
  cases op with
  | new h dims batch vals =>
    refine withShape_ref hs fun sh _ => ?_
    split
    · exact Ref.same hs _
    · next hl => exact allocInto_ref hs h sh vals (Decidable.of_not_not hl)
  | copy h g | copyctor h g => exact copyOp_ref hs h g
  | move h g =>
    refine some_ref hs h fun v hg => ?_
    by_cases hhg : h = g
    · simp only [hhg, if_true]; exact Ref.same hs _
    · simp only [hhg, if_false]
      have r1 := replace_ref hs g (some v) (storable_of_slot hs hg)
      have r2 := replace_ref r1.inv' h (some .invalid) (storable_invalid _)
      rw [r1.abs'] at r2
      exact r1.after r2
  | reshape h g dims batch =>
    exact some_ref hs h fun _ _ => withShape_ref hs fun nsh _ => viewOp_ref hs h g _ (fun a c hr => reshape_size hr)
  | flatten h g => exact viewOp_ref hs h g _ (fun a c hr => flatten_size hr)
  | reset h k => exact guard_ref hs h fun _ _ hc => inplace1_ref hs hc _ fun _ hD => length_fill _ _ _ hD
  | imul h k | dimul h k => exact guard_ref hs h fun _ _ hc => inplace1_ref hs hc _ fun _ hD => length_scale _ _ _ hD
  | resetv h vals =>
    refine guard_ref hs h fun sh b hc => ?_
    split
    · exact Ref.same hs _
    · next hl =>
      rw [Spec.inplace1, (hs.reads hc).abs]
      exact inplace1_ref hs hc _ fun D hD => length_overwrite _ _ _ hD (Decidable.of_not_not hl)
  | iadd h g | isub h g | diadd h g | disub h g => exact inplace2_ref hs _ h g
  | invalidate h => exact some_ref hs h fun _ _ => replace_ref hs h (some .invalid) (storable_invalid _)
  | drop h => exact some_ref hs h fun _ _ => replace_ref hs h none (storable_none _)
  | read h =>
    refine guard_ref hs h fun sh b hc => ?_
    simp only [(hs.reads hc).val, (hs.reads hc).full]; exact Ref.same hs _
  | shape h => exact guard_ref hs h fun _ _ _ => Ref.same hs _
  | valid h | device h => exact guard_ref' hs h fun _ _ _ => Ref.same hs _
  | param p dims batch vals =>
    refine withShape_ref hs fun sh _ => ?_
    split
    · exact Ref.same hs _
    · next hl =>
      split
      · exact Ref.same hs _
      · have r1 := allocInto_ref hs (vslot p) sh vals (Decidable.of_not_not hl)
        have r2 := allocInto_ref r1.inv' (gslot p) sh (List.replicate sh.size 0) (by simp)
        rw [r1.abs'] at r2
        exact (r1.after r2).flag _
  | pvalue p g | pgrad p g | ptensor p g =>
    show Ref s (if s.pvalid.getD p false = true then _ else _) (if s.pvalid.getD p false = true then _ else _)
    split
    · exact copyOp_ref hs _ g
    · exact Ref.same hs _
  | piaddValue p g | piaddGrad p g =>
    refine some_ref hs g fun _ _ => ?_
    simp only [hpv]
    split
    · exact inplace2_ref hs _ _ g
    · exact Ref.same hs _
  | pdrop p =>
    have r1 := replace_ref hs (vslot p) none (storable_none _)
    have r2 := replace_ref r1.inv' (gslot p) none (storable_none _)
    rw [r1.abs'] at r2
    exact (r1.after r2).flag _
  | dsliceBw gy dim off gx => exact bwOp_ref hs _ _ _ _ (fun _ _ _ _ => length_sliceBwK _ _ _ _ _ _)
  | dpickBw gy dim ids gx => exact bwOp_ref hs _ _ _ _ (fun _ _ _ _ => length_scatter _ _ _ _)
  | dflipBw gy dim gx => exact bwOp_ref hs _ _ _ _ (fun _ _ _ _ => length_scatter _ _ _ _)
  | dtransposeBw gy gx => exact bwOp_ref hs _ _ _ _ (fun _ _ _ _ => length_arith _ _ _ _ _)
  | daddBw gy ga gb | dsubBw gy ga gb => exact abBwOp_ref hs _ _ _ _
  | fcopy h g => exact freshOp_ref hs h g fun sh => pure sh
  | fconcat1 h g dim => exact freshOp_ref hs h g _
  | fbconcat1 h g => exact freshOp_ref hs h g _
  | fpositive h g =>
    exact guard_ref' hs h fun sh b hc => replace_ref hs g (some (.valid sh b)) (storable_of_slot hs hc)
  | probe fn h =>
    refine guard_ref hs h fun sh _ _ => ?_
    split <;> exact Ref.same hs _
  | live => exact absurd rfl hop
  | readall =>
    show Ref s (match readAllFrom s 0 s.pool with | some l => (s, .all l) | none => (s, .crash)) _
    rw [readAll_ref (s := s) s.pool 0 fun o ho sh b e => by
      obtain ⟨i, hi⟩ := mem_getSlot ho
      exact hs.len i sh b (by rw [hi, e])]
    exact Ref.same hs _

theorem step_refines {s : State} (hs : Inv s) (op : Op) :
    Inv (step s op).1 ∧ absState (step s op).1 = (Spec.step (absState s) op).1 ∧
    (op ≠ .live → (step s op).2 = (Spec.step (absState s) op).2) ∧ Evo s.heap (step s op).1.heap := by
  by_cases hop : op = .live
  · subst hop; exact ⟨hs, rfl, fun h => absurd rfl h, Evo.refl _⟩
  · obtain ⟨h1, h2, h3, h4⟩ := step_ref hs op hop
    exact ⟨h1, h2, fun _ => h3, h4⟩

theorem run_snoc (s : State) (ops : List Op) (op : Op) :
    (run s (ops ++ [op])).1 = (step (run s ops).1 op).1 := by
  induction ops generalizing s with
  | nil => rfl
  | cons o ops ih => simp only [List.cons_append, run]; exact ih _

end Primitiv.Cow
