import PrimitivModel.Lemmas.MoveShape
/-
Index arithmetic of each kernel, over plain numbers: `L` elements below the
axis, `n` on it, `U` above it, `B` samples.  For every loop nest: all read and
write indices are in bounds, every destination element is written, and which
source element the step writing a given destination element reads; for the
backward nests, that they visit the index pairs of the forward nest (operands
with equal minibatch size) or are one nest per sample of `gy` (`Folds`).
-/
namespace Primitiv.Move
open Primitiv.View3

theorem block_lt {L ny nx off r : Nat} (h : off + ny ≤ nx) (hr : r < L * ny) : L * off + r < L * nx := by
  have := Nat.mul_le_mul_left L h
  rw [Nat.mul_add] at this; omega

/-- the 32-bit products `base * offset` (slice_bw) and `volume * offset` (batch_slice_bw) do not wrap: the block
they address lies in a tensor of fewer than 2^32 elements -/
theorem off_fits {L off nx R : Nat} (h : off ≤ nx) (hR : 0 < R) (hfit : L * nx * R < W) : L * off < W :=
  Nat.lt_of_le_of_lt (Nat.le_trans (Nat.mul_le_mul_left L h) (Nat.le_mul_of_pos_right _ hR)) hfit

/-! An operand with `B` samples of `V` elements is read with the batch stride `[B ≠ 1] * V`
(`b2n hasBatch * volume` in the kernels): a single sample is shared by all samples of the loop. -/

theorem hb_mul_lt {V B bs b : Nat} {v : Nat} (hv : v < V) (hB : 0 < B) (hb : b < bs) (hbs : B = 1 ∨ bs = B) :
    b * ((if B = 1 then 0 else 1) * V) + v < V * B := by
  by_cases h1 : B = 1
  · rw [if_pos h1, h1]; omega
  · rw [if_neg h1, Nat.one_mul, Nat.mul_comm, Nat.add_comm]
    exact lt_mul_of_lt hv (by omega)

theorem hb_recompose {V B t : Nat} (ht : t < V * B) :
    t / V * ((if B = 1 then 0 else 1) * V) + t % V = t := by
  by_cases h : B = 1
  · subst h
    rw [Nat.mul_one] at ht
    simp [Nat.div_eq_of_lt ht, Nat.mod_eq_of_lt ht]
  · rw [if_neg h, Nat.one_mul, Nat.mul_comm]
    exact Nat.div_add_mod t V

theorem hb_mul_eq {V B b : Nat} (hb : b < B) : (if B = 1 then 0 else 1) * V * b = V * b := by
  by_cases h : B = 1
  · obtain rfl : b = 0 := by omega
    rfl
  · rw [if_neg h, Nat.one_mul]

theorem sliceFw_bounds {L ny nx R off : Nat} (h : off + ny ≤ nx) :
    (sliceFwMoves L (L * ny) (L * nx) R off).InBounds (L * nx * R) (L * ny * R) := by
  intro t ht
  have ⟨h1, h2⟩ := seq2_bounds ht
  simp only [sliceFwMoves] at ht ⊢
  exact ⟨lt_of_eq_of_lt (by ring) (lt_mul_of_lt (block_lt h h1) h2), by rwa [Nat.mul_comm]⟩

theorem sliceFw_idx {L ny nx off a k c : Nat} (R : Nat) (ha : a < L) (hk : k < ny) :
    (sliceFwMoves L (L * ny) (L * nx) R off).sidx (comp3 L ny a k c) = comp3 L nx a (k + off) c := by
  have hs : a + L * k < L * ny := lt_mul_of_lt ha hk
  have e : comp3 L ny a k c = (a + L * k) + (L * ny) * c := by unfold comp3; ring
  simp only [sliceFwMoves]
  rw [e, add_mul_mod _ hs, add_mul_div _ hs]
  unfold comp3; ring

theorem pick_id_ok {ids : List Nat} {Bx nx b : Nat} (hpos : 0 < ids.length)
    (hcomp : Bx = ids.length ∨ Bx = 1 ∨ ids.length = 1) (hids : ∀ i ∈ ids, i < nx)
    (hb : b < max Bx ids.length) :
    b * b2n (ids.length > 1) < ids.length ∧ ids.getD (b * b2n (ids.length > 1)) 0 < nx := by
  have h1 : b * b2n (ids.length > 1) < ids.length := by
    unfold b2n
    by_cases h : ids.length > 1
    · rw [decide_eq_true h, if_pos rfl]; omega
    · rw [decide_eq_false h, if_neg (by decide)]; omega
  rw [← List.getElem_eq_getD (h := h1) 0]
  exact ⟨h1, hids _ (List.getElem_mem h1)⟩

theorem pickIdsOk_max {ids : List Nat} {Bx nx : Nat} (hpos : 0 < ids.length)
    (hcomp : Bx = ids.length ∨ Bx = 1 ∨ ids.length = 1) (hids : ∀ i ∈ ids, i < nx) :
    Front.pickIdsOk (max Bx ids.length) ids = true := by
  unfold Front.pickIdsOk
  simp only [List.all_eq_true, List.mem_range, decide_eq_true_eq]
  exact fun b hb => (pick_id_ok hpos hcomp hids hb).1

theorem pick_count (B sX sI L skip U : Nat) (ids : List Nat) : (pickMoves B sX sI L skip U ids).count = L * U * B := by
  simp only [pickMoves]; ring

theorem pick_idx {B sX sI L nx U a c b : Nat} (ids : List Nat) (ha : a < L) (hc : c < U) :
    (pickMoves B sX sI L (L * nx) U ids).sidx (a + L * (c + U * b)) =
      b * sX + comp3 L nx a (ids.getD (b * sI) 0) c := by
  have ⟨i1, i2, i3⟩ := seq3_index (b := b) hc ha
  simp only [pickMoves, comp3]
  rw [show a + L * (c + U * b) = (b * U + c) * L + a by ring, i1, i2, i3]; ring

theorem pick_bounds {L nx U Bx : Nat} {ids : List Nat} (hBx : 0 < Bx)
    (hpos : 0 < ids.length) (hcomp : Bx = ids.length ∨ Bx = 1 ∨ ids.length = 1) (hids : ∀ i ∈ ids, i < nx) :
    (pickMoves (max Bx ids.length) ((if Bx = 1 then 0 else 1) * (L * nx * U)) (b2n (ids.length > 1)) L (L * nx) U ids).InBounds
      (L * nx * U * Bx) (L * U * max Bx ids.length) := by
  intro t ht
  rw [pick_count] at ht
  obtain ⟨a, c, b, ha, hc, hb, rfl⟩ := exists_comp3 ht
  refine ⟨?_, ht⟩
  unfold comp3
  rw [pick_idx ids ha hc]
  exact hb_mul_lt (comp3_lt ha (pick_id_ok hpos hcomp hids hb).2 hc) hBx hb (by omega)

theorem sliceBw_bounds {L ny nx U Bx By off : Nat} (h : off + ny ≤ nx) (hU : 0 < U)
    (hBx : 0 < Bx) (hBy : 0 < By) (hcomp : By = Bx ∨ By = 1 ∨ Bx = 1) (hfit : L * nx * U * Bx < W) :
    (sliceBwMoves L (L * ny) (L * nx) U (max Bx By) ((if Bx = 1 then 0 else 1) * (L * nx * U))
        ((if By = 1 then 0 else 1) * (L * ny * U)) off).InBounds (L * ny * U * By) (L * nx * U * Bx) := by
  intro t ht
  have ⟨h1, h2, h3⟩ := seq3_bounds ht
  have hm : mul32 L off = L * off :=
    Nat.mod_eq_of_lt (off_fits (nx := nx) (by omega) (Nat.mul_pos hU hBx) (by rw [← Nat.mul_assoc]; exact hfit))
  simp only [sliceBwMoves, hm]
  exact ⟨lt_of_eq_of_lt (by ring) (hb_mul_lt (lt_mul_of_lt h1 h2) hBy h3 (by omega)),
    lt_of_eq_of_lt (by ring) (hb_mul_lt (lt_mul_of_lt (block_lt h h1) h2) hBx h3 (by omega))⟩

theorem inplaceAdd_bounds {V Bx By : Nat} (hBx : 0 < Bx) (hBy : 0 < By) (hcomp : By = Bx ∨ By = 1 ∨ Bx = 1) :
    (inplaceAddMoves V (max By Bx) ((if Bx = 1 then 0 else 1) * V) ((if By = 1 then 0 else 1) * V)).InBounds
      (V * By) (V * Bx) := by
  intro t ht
  have ⟨h1, h2⟩ := seq2_bounds ht
  exact ⟨hb_mul_lt h1 hBy h2 (by omega), hb_mul_lt h1 hBx h2 (by omega)⟩

theorem transpose_didx {d1 d2 i j k : Nat} (bs : Nat) (hi : i < d1) (hj : j < d2) :
    (transposeMoves d1 d2 bs).didx (i + d1 * (j + d2 * k)) = j + d2 * (i + d1 * k) := by
  have ⟨i1, i2, i3⟩ := seq3_index (b := k) hj hi
  simp only [transposeMoves]
  rw [show i + d1 * (j + d2 * k) = (k * d2 + j) * d1 + i by ring, i1, i2, i3]; ring

theorem transpose_steps {d1 d2 bs t : Nat} (ht : t < (transposeMoves d1 d2 bs).count) :
    ∃ j i k, j < d2 ∧ i < d1 ∧ k < bs ∧ comp3 d1 d2 i j k = t := by
  obtain ⟨i, j, k, hi, hj, hk, e⟩ := exists_comp3 (lo := d1) (n := d2) (hi := bs) (i := t) (by rwa [Nat.mul_comm])
  exact ⟨j, i, k, hj, hi, hk, e⟩

theorem transpose_bounds (d1 d2 bs : Nat) :
    (transposeMoves d1 d2 bs).InBounds (d1 * d2 * bs) (d1 * d2 * bs) := by
  intro t ht
  refine ⟨by rw [Nat.mul_comm]; exact ht, ?_⟩
  obtain ⟨j, i, k, hj, hi, hk, rfl⟩ := transpose_steps ht
  unfold comp3
  rw [transpose_didx bs hi hj, Nat.mul_comm d1 d2]
  exact comp3_lt hj hi hk

theorem transpose_writes (d1 d2 bs : Nat) :
    (transposeMoves d1 d2 bs).WritesAll (d1 * d2 * bs) ∧ (transposeMoves d1 d2 bs).WritesOnce := by
  rw [Nat.mul_comm d1 d2]
  refine writes_of_coords (T := fun j i k => comp3 d1 d2 i j k) (fun hj hi hk => ⟨?_, transpose_didx _ hi hj⟩)
    (fun t ht => transpose_steps ht)
  rw [show (transposeMoves d1 d2 bs).count = d1 * d2 * bs from Nat.mul_comm _ _]
  exact comp3_lt hi hj hk

/-- the offset `i * n - i % skip * (n - 1)` that flip computes for its `i`-th line, `skip = L` -/
theorem flip_offset {L n i : Nat} (hn : 0 < n) :
    i * n - i % L * (n - 1) = comp3 L n (i % L) 0 (i / L) := by
  unfold comp3
  have h := Nat.div_add_mod i L
  obtain ⟨m, rfl⟩ : ∃ m, n = m + 1 := ⟨n - 1, by omega⟩
  simp only [Nat.add_sub_cancel]
  have : i * (m + 1) = i % L * m + (i % L + L * (0 + (m + 1) * (i / L))) := by
    conv => lhs; rw [← h]
    ring
  omega

/-- the loop runs over the positions along the axis outermost, so the step is `comp3 L R a c k` -/
theorem flip_step {L n R a k c : Nat} (ha : a < L) (hk : k < n) (hc : c < R) :
    comp3 L R a c k < n * (L * R) ∧
    (flipMoves n L (L * R)).didx (comp3 L R a c k) = comp3 L n a k c ∧
    (flipMoves n L (L * R)).sidx (comp3 L R a c k) = comp3 L n a (n - k - 1) c := by
  have hi : a + L * c < L * R := lt_mul_of_lt ha hc
  have e : comp3 L R a c k = (a + L * c) + L * R * k := by unfold comp3; ring
  simp only [flipMoves]
  rw [e, add_mul_mod _ hi, add_mul_div _ hi, flip_offset (by omega), add_mul_mod _ ha, add_mul_div _ ha,
    Nat.mul_comm n]
  exact ⟨lt_mul_of_lt hi hk, by unfold comp3; ring, by unfold comp3; ring⟩

theorem flip_steps {L n R t : Nat} (ht : t < n * (L * R)) :
    ∃ a k c, a < L ∧ k < n ∧ c < R ∧ comp3 L R a c k = t := by
  obtain ⟨a, c, k, ha, hc, hk, rfl⟩ := exists_comp3 (lo := L) (n := R) (hi := n) (i := t) (by rwa [Nat.mul_comm])
  exact ⟨a, k, c, ha, hk, hc, rfl⟩

theorem flip_bounds {L n R : Nat} : (flipMoves n L (L * R)).InBounds (L * n * R) (L * n * R) := by
  intro t ht
  obtain ⟨a, k, c, ha, hk, hc, rfl⟩ := flip_steps ht
  have ⟨_, e1, e2⟩ := flip_step ha hk hc
  rw [e1, e2]
  exact ⟨comp3_lt ha (by omega) hc, comp3_lt ha hk hc⟩

theorem flip_writes {L n R : Nat} :
    (flipMoves n L (L * R)).WritesAll (L * n * R) ∧ (flipMoves n L (L * R)).WritesOnce :=
  writes_of_coords (T := fun a k c => comp3 L R a c k) (fun ha hk hc => ⟨(flip_step ha hk hc).1, (flip_step ha hk hc).2.1⟩)
    (fun _ ht => flip_steps ht)

theorem broadcast_step {L size R a k c : Nat} (ha : a < L) (hk : k < size) (hc : c < R) :
    (a + L * c) * size + k < L * R * size ∧
    (broadcastMoves (L * R) L size).didx ((a + L * c) * size + k) = comp3 L size a k c ∧
    (broadcastMoves (L * R) L size).sidx ((a + L * c) * size + k) = a + L * c := by
  have e : (a + L * c) * size + k = k + size * (a + L * c) := by ring
  simp only [broadcastMoves]
  rw [e, add_mul_div _ hk, add_mul_mod _ hk, axisOff_at ha, Nat.mul_comm (L * R)]
  exact ⟨lt_mul_of_lt hk (lt_mul_of_lt ha hc), rfl, rfl⟩

theorem broadcast_steps {L size R t : Nat} (ht : t < L * R * size) :
    ∃ a k c, a < L ∧ k < size ∧ c < R ∧ (a + L * c) * size + k = t := by
  obtain ⟨k, a, c, hk, ha, hc, rfl⟩ := exists_comp3 (lo := size) (n := L) (hi := R) (i := t) (by rwa [Nat.mul_assoc, Nat.mul_comm])
  exact ⟨a, k, c, ha, hk, hc, by unfold comp3; ring⟩

theorem broadcast_bounds {L size R : Nat} :
    (broadcastMoves (L * R) L size).InBounds (L * R) (L * size * R) := by
  intro t ht
  obtain ⟨a, k, c, ha, hk, hc, rfl⟩ := broadcast_steps ht
  have ⟨_, e1, e2⟩ := broadcast_step ha hk hc
  rw [e1, e2]
  exact ⟨lt_mul_of_lt ha hc, comp3_lt ha hk hc⟩

theorem broadcast_writes {L size R : Nat} :
    (broadcastMoves (L * R) L size).WritesAll (L * size * R) ∧ (broadcastMoves (L * R) L size).WritesOnce :=
  writes_of_coords (T := fun a k c => (a + L * c) * size + k)
    (fun ha hk hc => ⟨(broadcast_step ha hk hc).1, (broadcast_step ha hk hc).2.1⟩) (fun _ ht => broadcast_steps ht)

theorem batchPick_bounds {V Bx : Nat} {ids : List Nat} (hids : ∀ i ∈ ids, i < Bx) :
    (batchPickMoves ids.length V ids).InBounds (V * Bx) (V * ids.length) := by
  intro t ht
  have ⟨h1, h2⟩ := seq2_bounds ht
  refine ⟨?_, by rw [Nat.mul_comm]; exact ht⟩
  simp only [batchPickMoves]
  rw [← List.getElem_eq_getD (h := h2) 0, Nat.add_comm]
  exact lt_mul_of_lt h1 (hids _ (List.getElem_mem h2))

theorem batchSliceFw_bounds {V rep off Bx : Nat} (h : off + rep ≤ Bx) :
    (batchSliceFwMoves V rep off).InBounds (V * Bx) (V * rep) :=
  fun _ ht => ⟨block_lt h ht, ht⟩

theorem batchSliceBw_bounds {V rep off Bx : Nat} (h : off + rep ≤ Bx) (hfit : V * Bx < W) :
    (batchSliceBwMoves V rep off).InBounds (V * rep) (V * Bx) := by
  intro t ht
  have hm : mul32 V off = V * off :=
    Nat.mod_eq_of_lt (off_fits (nx := Bx) (by omega) Nat.one_pos (by rwa [Nat.mul_one]))
  simp only [batchSliceBwMoves, hm]
  exact ⟨ht, block_lt h ht⟩

theorem copy_bounds (n : Nat) : (copyMoves n).InBounds n n := fun _ ht => ⟨ht, ht⟩

theorem axisReduce_bounds {L n R : Nat} (hL : 0 < L) : (axisReduce (L * R) n L).InBounds (L * n * R) :=
  fun _ _ hi hj => axisOff_lt hL hi hj

theorem batchSum_bounds (V B : Nat) : (batchSumReduce V B).InBounds (V * B) := by
  intro i b hi hb
  simp only [batchSumReduce]
  rw [Nat.mul_comm]
  exact lt_mul_of_lt hi hb

theorem identity_bounds {n i : Nat} (hi : i < n) : i * (n + 1) < n * n :=
  lt_of_eq_of_lt (by ring) (lt_mul_of_lt hi hi)

theorem inplaceAdd_same_idx {V B : Nat} :
    (inplaceAddMoves V B ((if B = 1 then 0 else 1) * V) ((if B = 1 then 0 else 1) * V)).count = V * B ∧
    ∀ t, t < V * B →
      (inplaceAddMoves V B ((if B = 1 then 0 else 1) * V) ((if B = 1 then 0 else 1) * V)).sidx t = t ∧
      (inplaceAddMoves V B ((if B = 1 then 0 else 1) * V) ((if B = 1 then 0 else 1) * V)).didx t = t := by
  simp only [inplaceAddMoves]
  exact ⟨Nat.mul_comm _ _, fun t ht => ⟨hb_recompose ht, hb_recompose ht⟩⟩

theorem inplaceAdd_writesOnce {V B : Nat} :
    (inplaceAddMoves V B ((if B = 1 then 0 else 1) * V) ((if B = 1 then 0 else 1) * V)).WritesOnce := by
  have ⟨c, h⟩ := inplaceAdd_same_idx (V := V) (B := B)
  intro t t' ht ht' e
  rw [c] at ht ht'
  rwa [(h t ht).2, (h t' ht').2] at e

theorem sliceFw_unit_axis {L R t : Nat} : (sliceFwMoves L (L * 1) (L * 1) R 0).sidx t = t := by
  simp only [sliceFwMoves, Nat.mul_one, Nat.mul_zero, Nat.zero_add]
  rw [Nat.mul_comm]; exact Nat.div_add_mod t L

theorem sliceBw_same_idx {L ny nx U B off : Nat} (hoff : L * off < W) :
    let bw := sliceBwMoves L (L * ny) (L * nx) U B ((if B = 1 then 0 else 1) * (L * nx * U))
      ((if B = 1 then 0 else 1) * (L * ny * U)) off
    let fw := sliceFwMoves L (L * ny) (L * nx) (U * B) off
    bw.count = fw.count ∧ ∀ t, t < fw.count → bw.sidx t = t ∧ bw.didx t = fw.sidx t := by
  intro bw fw
  have hm : mul32 L off = L * off := Nat.mod_eq_of_lt hoff
  refine ⟨by simp only [bw, fw, sliceBwMoves, sliceFwMoves]; ring, fun t ht => ?_⟩
  -- the counters `b`, `c` of the sample and of the slab are the two digits of `q = t / (L * ny)`
  have hq := hb_recompose (seq2_bounds ht).2
  have hr := Nat.div_add_mod t (L * ny)
  simp only [bw, fw, sliceBwMoves, sliceFwMoves, hm, ← Nat.div_div_eq_div_mul t (L * ny) U]
  generalize t / (L * ny) = q at hq hr ⊢
  constructor
  · conv => rhs; rw [← hr, ← hq]
    ring
  · conv => rhs; rw [← hq]
    ring

def flipMap (L n i : Nat) : Nat := comp3 L n (below L i) (n - 1 - onAxis L n i) (above L n i)

theorem flipMap_lt {L n R i : Nat} (hL : 0 < L) (hn : 0 < n) (hi : i < L * n * R) : flipMap L n i < L * n * R :=
  comp3_lt (below_lt hL) (by have := onAxis_lt (lo := L) (i := i) hn; omega) (above_lt hi)

theorem flipMap_invol {L n i : Nat} (hL : 0 < L) (hn : 0 < n) : flipMap L n (flipMap L n i) = i := by
  have hk := onAxis_lt (lo := L) (i := i) hn
  have hk' : n - 1 - onAxis L n i < n := by omega
  unfold flipMap
  rw [below_comp3 (below_lt hL), onAxis_comp3 (below_lt hL) hk', above_comp3 (below_lt hL) hk',
    show n - 1 - (n - 1 - onAxis L n i) = onAxis L n i by omega, comp3_decomp]

theorem flip_step_of {L n R i : Nat} (hL : 0 < L) (hn : 0 < n) (hi : i < L * n * R) :
    ∃ t, t < (flipMoves n L (L * R)).count ∧ (flipMoves n L (L * R)).didx t = i ∧
      (flipMoves n L (L * R)).sidx t = flipMap L n i := by
  have ⟨h1, h2, h3⟩ := flip_step (n := n) (below_lt (i := i) hL) (onAxis_lt (lo := L) (i := i) hn) (above_lt hi)
  refine ⟨_, h1, by rw [h2, comp3_decomp], ?_⟩
  rw [h3, Nat.sub_right_comm]; rfl

theorem transpose_didx_invol {d1 d2 B o : Nat} (h1 : 0 < d1) (h2 : 0 < d2) :
    (transposeMoves d2 d1 B).didx ((transposeMoves d1 d2 B).didx o) = o := by
  have e : _ = o := comp3_decomp d1 d2 o
  have hi := below_lt (i := o) h1
  have hj := onAxis_lt (lo := d1) (i := o) h2
  conv => lhs; rw [← e]
  unfold comp3 at e ⊢
  rw [transpose_didx B hi hj, transpose_didx B hj hi, e]

theorem transpose_didx_lt {d1 d2 B o : Nat} (ho : o < d1 * d2 * B) : (transposeMoves d1 d2 B).didx o < d1 * d2 * B :=
  (transpose_bounds d1 d2 B o (by rw [Nat.mul_comm] at ho; exact ho)).2

/-- slice_bw into a `gx` without minibatch (batch stride 0): the one-sample nest may have any strides,
its sample counter being 0 throughout.  `hS` lets the caller pass the batch stride `[B ≠ 1] * Vy` of `gy`
as the kernel has it (`hb_mul_eq`). -/
theorem sliceBw_folds {base span skip rep B sS sD1 sS1 off Vy : Nat} (hS : ∀ b, b < B → sS * b = Vy * b) :
    Folds (sliceBwMoves base span skip rep B 0 sS off) (fun _ => sliceBwMoves base span skip rep 1 sD1 sS1 off)
      B (rep * span) Vy where
  count := Nat.mul_assoc ..
  count1 _ _ := by simp only [sliceBwMoves, Nat.one_mul]
  didx t0 b ht0 _ := by
    have ⟨e1, e2, _⟩ := seq3_batch (b := b) ht0
    have f3 : t0 / (span * rep) = 0 := Nat.div_eq_of_lt (by rwa [Nat.mul_comm])
    simp only [sliceBwMoves, e1, e2, f3, Nat.mul_zero, Nat.zero_mul, Nat.add_zero]
  sidx t0 b ht0 hb := by
    have ⟨e1, e2, e3⟩ := seq3_batch (b := b) ht0
    have f3 : t0 / (span * rep) = 0 := Nat.div_eq_of_lt (by rwa [Nat.mul_comm])
    simp only [sliceBwMoves, e1, e2, e3, f3, Nat.zero_mul, Nat.zero_add]
    rw [← hS b hb]; ring

/-- inplace_add into a destination without minibatch (slice_bw on an axis at or beyond the depth) -/
theorem inplaceAdd_folds {V B sS sD1 sS1 Vy : Nat} (hS : ∀ b, b < B → sS * b = Vy * b) :
    Folds (inplaceAddMoves V B 0 sS) (fun _ => inplaceAddMoves V 1 sD1 sS1) B V Vy where
  count := rfl
  count1 _ _ := Nat.one_mul V
  didx t0 b ht0 _ := by
    simp only [inplaceAddMoves, add_mul_mod _ ht0, Nat.mod_eq_of_lt ht0, Nat.div_eq_of_lt ht0, Nat.mul_zero, Nat.zero_mul]
  sidx t0 b ht0 hb := by
    simp only [inplaceAddMoves, add_mul_mod _ ht0, add_mul_div _ ht0, Nat.mod_eq_of_lt ht0, Nat.div_eq_of_lt ht0,
      Nat.zero_mul, Nat.zero_add]
    rw [← hS b hb]; ring

theorem pickBw_folds {base skip rep B sI sX1 sI1 : Nat} {ids : List Nat} :
    Folds (pickMoves B 0 sI base skip rep ids).swap
      (fun b => (pickMoves 1 sX1 sI1 base skip rep [ids.getD (b * sI) 0]).swap) B (rep * base) (rep * base) where
  count := Nat.mul_assoc ..
  count1 _ _ := by simp only [Moves.swap, pickMoves, Nat.one_mul]
  didx t0 b ht0 _ := by
    have ⟨e1, e2, e3⟩ := seq3_batch (b := b) ht0
    have f3 : t0 / (base * rep) = 0 := Nat.div_eq_of_lt (by rwa [Nat.mul_comm])
    simp only [Moves.swap, pickMoves, e1, e2, e3, f3, Nat.mul_zero, Nat.zero_mul, Nat.zero_add, List.getD_cons_zero]
  sidx _ _ _ _ := rfl

theorem batchPickBw_folds {V : Nat} {ids : List Nat} :
    Folds (batchPickMoves ids.length V ids).swap (fun b => (batchPickMoves 1 V [ids.getD b 0]).swap) ids.length V V where
  count := rfl
  count1 _ _ := Nat.one_mul V
  didx t0 b ht0 _ := by
    simp only [Moves.swap, batchPickMoves, add_mul_mod _ ht0, add_mul_div _ ht0, Nat.mod_eq_of_lt ht0,
      Nat.div_eq_of_lt ht0, List.getD_cons_zero]
  sidx _ _ _ _ := rfl

theorem batchSliceBw_folds {V B off : Nat} (hfit : ∀ b, b < B → V * (off + b) < W) (hB : 0 < B) :
    Folds (batchSliceBwMoves V B off) (fun b => batchSliceBwMoves V 1 (off + b)) B V V where
  count := Nat.mul_comm ..
  count1 _ _ := Nat.mul_one V
  didx t0 b _ hb := by
    have h1 : mul32 V (off + b) = V * (off + b) := Nat.mod_eq_of_lt (hfit b hb)
    have h2 : mul32 V off = V * off := Nat.mod_eq_of_lt (hfit 0 hB)
    simp only [batchSliceBwMoves, h1, h2]; ring
  sidx _ _ _ _ := rfl

/-! Consecutive blocks of lengths `l`: the samples of the operands of batch_concat, the positions along
the axis of the operands of concat. -/

theorem take_sum_mono (l : List Nat) {p q : Nat} (hpq : p < q) (hp : p < l.length) :
    (l.take p).sum + l[p] ≤ (l.take q).sum := by
  induction l generalizing p q with
  | nil => simp at hp
  | cons x rest ih =>
    cases q with
    | zero => omega
    | succ q =>
      cases p with
      | zero => simp
      | succ p =>
        have := ih (p := p) (q := q) (by omega) (by simpa using hp)
        simp only [List.take_succ_cons, List.sum_cons, List.getElem_cons_succ]; omega

theorem take_sum_succ_le (l : List Nat) (p : Nat) (hp : p < l.length) : (l.take p).sum + l[p] ≤ l.sum := by
  have := take_sum_mono l hp hp
  rwa [List.take_length] at this

theorem exists_block (l : List Nat) (o : Nat) (h : o < l.sum) :
    ∃ p, ∃ hp : p < l.length, (l.take p).sum ≤ o ∧ o < (l.take p).sum + l[p] := by
  induction l generalizing o with
  | nil => simp at h
  | cons x rest ih =>
    rcases Nat.lt_or_ge o x with hlt | hge
    · exact ⟨0, by simp, by simp, by simpa using hlt⟩
    · obtain ⟨p, hp, h1, h2⟩ := ih (o - x) (by simp only [List.sum_cons] at h; omega)
      refine ⟨p + 1, by simpa using hp, ?_, ?_⟩ <;>
        simp only [List.take_succ_cons, List.sum_cons, List.getElem_cons_succ] <;> omega

theorem block_unique (l : List Nat) {p q t t' : Nat} (hp : p < l.length) (hpq : p ≤ q) (ht : t < l[p])
    (e : (l.take q).sum + t' = (l.take p).sum + t) : q = p ∧ t' = t := by
  rcases Nat.lt_or_eq_of_le hpq with hlt | rfl
  · have := take_sum_mono l hlt hp
    omega
  · exact ⟨rfl, by omega⟩

theorem sizes_sum {xs : List Shape} {V : Nat} (h : ∀ s ∈ xs, s.size = V * s.batch) :
    (xs.map (·.size)).sum = V * (xs.map (·.batch)).sum := by
  induction xs with
  | nil => simp
  | cons x rest ih =>
    simp only [List.map_cons, List.sum_cons]
    rw [ih (fun s hs => h s (List.mem_cons_of_mem _ hs)), h x List.mem_cons_self]; ring

/-! concat: one operand occupying positions `s .. s+n-1` of an axis of extent `N` -/

theorem concat_form {B L N U s n hbv t : Nat}
    (ht : t < (concatMoves B L (L * N) U (L * s) n hbv).count) :
    (concatMoves B L (L * N) U (L * s) n hbv).didx t =
      comp3 L N (t % (L * n) % L) (s + t % (L * n) / L) (t / (L * n)) ∧
    t % (L * n) / L < n ∧ t / (L * n) < B * U := by
  have ⟨h1, h2⟩ := seq2_bounds ht
  refine ⟨?_, Nat.div_lt_of_lt_mul h1, h2⟩
  simp only [concatMoves, comp3]
  conv => lhs; rw [← Nat.mod_add_div (t % (L * n)) L]
  ring

theorem concat_bounds {B L N U s n Bp : Nat} (hBp : 0 < Bp) (hs : s + n ≤ N) (hcomp : Bp = 1 ∨ Bp = B) :
    (concatMoves B L (L * N) U (L * s) n (if Bp = 1 then 0 else 1)).InBounds (L * n * U * Bp) (L * N * U * B) := by
  intro t ht
  have ⟨e, hk, hq⟩ := concat_form ht
  have ⟨h1, h2, h3⟩ := seq3_bounds ht
  have hL := (pos_of_lt_mul h1).1
  constructor
  · simp only [concatMoves]
    exact lt_of_eq_of_lt (by ring) (hb_mul_lt (lt_mul_of_lt h1 h2) hBp h3 (by omega))
  · rw [e, show L * N * U * B = L * N * (B * U) by ring]
    exact comp3_lt (Nat.mod_lt _ hL) (by omega) hq

theorem concat_step {B L N U s n Bp a k c b : Nat} (ha : a < L) (hk : k < n) (hc : c < U) (hb : b < B) :
    let m := concatMoves B L (L * N) U (L * s) n (if Bp = 1 then 0 else 1)
    let t := (b * U + c) * (L * n) + (a + L * k)
    t < m.count ∧ m.didx t = comp3 L N a (s + k) (c + U * b) ∧
    m.sidx t = comp3 L n a k (c + U * (if Bp = 1 then 0 else b)) := by
  intro m t
  have hr : a + L * k < L * n := lt_mul_of_lt ha hk
  have ⟨i1, i2, i3⟩ := seq3_index (b := b) hc hr
  have hq : t / (L * n) = b * U + c := by
    rw [show t = (a + L * k) + L * n * (b * U + c) by simp only [t]; ring]
    exact add_mul_div _ hr
  refine ⟨seq3_lt hb hc hr, ?_, ?_⟩
  · simp only [m, concatMoves]
    rw [i1, hq]; unfold comp3; ring
  · simp only [m, concatMoves]
    rw [i1, i2, i3]
    unfold comp3
    split <;> ring

theorem concat_covers {B L N U s n Bp o : Nat} (hL : 0 < L) (hU : 0 < U) (ho : o < L * N * (U * B))
    (h1 : s ≤ onAxis L N o) (h2 : onAxis L N o < s + n) :
    ∃ t, t < (concatMoves B L (L * N) U (L * s) n (if Bp = 1 then 0 else 1)).count ∧
      (concatMoves B L (L * N) U (L * s) n (if Bp = 1 then 0 else 1)).didx t = o := by
  have hc := above_lt ho
  have ⟨s1, s2, _⟩ := concat_step (B := B) (N := N) (s := s) (n := n) (Bp := Bp) (k := onAxis L N o - s)
    (below_lt (i := o) hL) (by omega) (Nat.mod_lt (above L N o) hU) (Nat.div_lt_of_lt_mul hc)
  refine ⟨_, s1, ?_⟩
  rw [s2, show s + (onAxis L N o - s) = onAxis L N o by omega, Nat.mod_add_div, comp3_decomp]

theorem concat_didx_eq {B L N U s n hbv s' n' hbv' t t' : Nat} (hs : s + n ≤ N) (hs' : s' + n' ≤ N)
    (ht : t < (concatMoves B L (L * N) U (L * s) n hbv).count)
    (ht' : t' < (concatMoves B L (L * N) U (L * s') n' hbv').count)
    (e : (concatMoves B L (L * N) U (L * s) n hbv).didx t = (concatMoves B L (L * N) U (L * s') n' hbv').didx t') :
    s + t % (L * n) / L = s' + t' % (L * n') / L ∧ (s = s' → n = n' → t = t') := by
  have ⟨f1, k1, _⟩ := concat_form ht
  have ⟨f2, k2, _⟩ := concat_form ht'
  have hL := (pos_of_lt_mul (seq2_bounds ht).1).1
  rw [f1, f2] at e
  have ⟨a, b, c⟩ := comp3_inj (Nat.mod_lt _ hL) (show s + t % (L * n) / L < N by omega) (Nat.mod_lt _ hL)
    (show s' + t' % (L * n') / L < N by omega) e
  refine ⟨b, ?_⟩
  rintro rfl rfl
  rw [← Nat.mod_add_div t (L * n), ← Nat.mod_add_div t' (L * n), c, ← Nat.mod_add_div (t % (L * n)) L,
    ← Nat.mod_add_div (t' % (L * n)) L, a, show t % (L * n) / L = t' % (L * n) / L by omega]

end Primitiv.Move
