import PrimitivModel.Model.SpinMixins
/-
The invariants of the sequential models of Identifiable and DefaultSettable
(Model/SpinMixins.lean).  Core Lean only.
-/
namespace Primitiv.Lock

theorem updO_apply {α} (f : Nat → α) (k x : Nat) (v : α) : updO f k v x = if x = k then v else f x := rfl

theorem inverse_insert {f g : Nat → Option Nat} (h : ∀ i a, f i = some a ↔ g a = some i) {k a : Nat}
    (hk : f k = none) (ha : g a = none) (i b : Nat) :
    updO f k (some a) i = some b ↔ updO g a (some k) b = some i := by
  simp only [updO_apply]
  grind

theorem inverse_erase {f g : Nat → Option Nat} (h : ∀ i a, f i = some a ↔ g a = some i) {k a : Nat}
    (ha : g a = some k) (i b : Nat) :
    updO f k none i = some b ↔ updO g a none b = some i := by
  have h' : ∀ a i, g a = some i → f i = some a := fun a i => (h i a).2
  simp only [updO_apply]
  grind

namespace Ident

/-- The invariant of the registry.  `bij` (ids and live objects are inverse partial maps)
gives all of `unique_resolvable` but that no id is issued twice, which is `nodup`.  The
other clauses are there for the induction: the next id is above every id issued or in
use, so it is fresh, and it is the number of ids issued, so it does not wrap in a
history shorter than 2^64. -/
structure Good (s : St) : Prop where
  next_eq : s.next = s.issued.length
  issued_lt : ∀ i ∈ s.issued, i < s.next
  nodup : s.issued.Nodup
  bij : ∀ i a, s.objs i = some a ↔ s.live a = some i
  objs_lt : ∀ i a, s.objs i = some a → i < s.next

theorem good_init : Good init := by
  constructor <;> simp [init]

theorem issued_len (s : St) (c : Cmd) : (exec s c).1.issued.length ≤ s.issued.length + 1 := by
  cases c <;> simp only [exec] <;> split <;> simp

theorem good_exec (s : St) (c : Cmd) (g : Good s) (hb : s.issued.length + 1 < W64) : Good (exec s c).1 := by
  cases c with
  | new a =>
    simp only [exec]
    cases hl : s.live a with
    | some i => exact g
    | none =>
      -- the next id is above every id in use, and the counter does not wrap
      have hfree : s.objs s.next = none := by
        cases ho : s.objs s.next with
        | none => rfl
        | some b => exact absurd (g.objs_lt _ _ ho) (Nat.lt_irrefl _)
      have hmod : inc64 s.next = s.next + 1 := if_pos (by have := g.next_eq; omega)
      simp only [hfree, hmod]
      refine ⟨by simp [g.next_eq], ?_, ?_, inverse_insert g.bij hfree hl, ?_⟩
      · intro i hi
        rcases List.mem_cons.1 hi with rfl | hi
        · exact Nat.lt_succ_self _
        · exact Nat.lt_succ_of_lt (g.issued_lt i hi)
      · exact List.nodup_cons.2 ⟨fun hm => absurd (g.issued_lt _ hm) (Nat.lt_irrefl _), g.nodup⟩
      · intro i b
        simp only [updO_apply]
        split
        · intro _; subst i; exact Nat.lt_succ_self _
        · exact fun h => Nat.lt_succ_of_lt (g.objs_lt i b h)
  | del a =>
    simp only [exec]
    cases hl : s.live a with
    | none => exact g
    | some id =>
      refine ⟨g.next_eq, g.issued_lt, g.nodup, inverse_erase g.bij hl, ?_⟩
      intro i b
      simp only [updO_apply]
      split
      · exact fun h => nomatch h
      · exact g.objs_lt i b
  | get id =>
    simp only [exec]
    split <;> exact g

theorem good_foldl (h : List Cmd) : ∀ s, Good s → s.issued.length + h.length < W64 →
    Good (h.foldl (fun s c => (exec s c).1) s) := by
  induction h with
  | nil => intro s g _; exact g
  | cons c h ih =>
    intro s g hb
    simp only [List.foldl_cons]
    simp only [List.length_cons] at hb
    apply ih
    · exact good_exec s c g (by omega)
    · have := issued_len s c; omega

theorem good_run (h : List Cmd) (hl : h.length < W64) : Good (run h) :=
  good_foldl h init good_init (by simpa [init] using hl)

end Ident

namespace Default

theorem good_exec (s : St) (c : Cmd) (g : ∀ a, s.slot = some a → s.live a = true) :
    ∀ a, (exec s c).1.slot = some a → (exec s c).1.live a = true := by
  cases c with
  | new b =>
    simp only [exec]; split
    · exact g
    · intro a h; simp only [updO_apply]; split
      · rfl
      · exact g a h
  | set b =>
    simp only [exec]; split
    · intro a h; cases h; assumption
    · exact g
  | del b =>
    simp only [exec]; split
    · intro a h
      simp only [updO_apply]
      by_cases hs : s.slot = some b
      · simp [hs] at h
      · simp only [hs, if_false] at h
        have hab : a ≠ b := by intro e; subst e; exact hs h
        simp only [hab, if_false]; exact g a h
    · exact g
  | get =>
    simp only [exec]; split <;> exact g

theorem good_foldl (h : List Cmd) : ∀ s : St, (∀ a, s.slot = some a → s.live a = true) →
    ∀ a, (h.foldl (fun s c => (exec s c).1) s).slot = some a → (h.foldl (fun s c => (exec s c).1) s).live a = true := by
  induction h with
  | nil => intro s g; exact g
  | cons c h ih => intro s g; simp only [List.foldl_cons]; exact ih _ (good_exec s c g)

end Default
end Primitiv.Lock
