import PrimitivModel.Lemmas.GraphExt
/-
What `forward` does to a well-formed state, on top of Lemmas/GraphExt.lean (`WF`, `Ext`); for Props/C05,
and through Lemmas/GraphFailure.lean and Lemmas/GraphTangent.lean for C10 and C01.  Core Lean only.

`Run s bs s' r` describes what evaluating the nodes `bs` does in a well-formed state, case by case, with
the facts about the intermediate states; every evaluation with sufficient fuel is a run (`forwardArgs_run`,
`forward_run`, `forceAll_run`).  Everything about a request is a rule induction over `Run`: what it
guarantees (`Run.spec`), operators appended later and the amount of fuel (`Run.appendOps`), the evaluation
order (`Run.plan`), success when a deterministic run has evaluated all that is needed (`Run.det`), and in
Lemmas/GraphFailure.lean the fault schedule, failing requests and retries.  Histories (`Op`, `step`, `run`;
`Reached`: from the empty graph) keep `WF` and, of every operator, its structure and the values it has (`Keeps`).
-/
namespace Primitiv.Graph
variable {τ : Type}

/-- what one (recursive) forward call from `s` for the nodes `tops` guarantees about
the state `s'` it reaches, `l` being the operators it evaluated -/
structure FwdPost (s : State τ) (tops : List Addr) (s' : State τ) (l : List Nat) : Prop where
  ext : Ext s s' l
  anc : ∀ k ∈ l, ∃ b ∈ tops, AncOf s k b.oid

/-- on success every non-parameter ancestor of the requested nodes is evaluated -/
def FwdDone (s : State τ) (tops : List Addr) (s' : State τ) : Prop :=
  ∀ b ∈ tops, ∀ k, AncOf s k b.oid → s.isParam k = false → s'.evaluated k

structure ArgsSpec (s : State τ) (bs : List Addr) (s' : State τ) (r : Except Err (List τ)) : Prop where
  post : ∃ l, FwdPost s bs s' l
  nocrash : r ≠ .error .crash
  ok : ∀ vs, r = .ok vs → bs.mapM s'.valueOf? = some vs ∧ FwdDone s bs s'

/-- a node `b` that shows the value `v` once the ancestors `l1` of it are evaluated, then a call for `rest` -/
theorem ArgsSpec.cons {s s1 s' : State τ} {b : Addr} {rest : List Addr} {r : Except Err (List τ)} {v : τ}
    {l1 : List Nat} (e1 : Ext s s1 l1) (hanc : ∀ k ∈ l1, AncOf s k b.oid) (hv : s1.valueOf? b = some v)
    (hd : FwdDone s [b] s1) (h : ArgsSpec s1 rest s' r) : ArgsSpec s (b :: rest) s' (r.map (v :: ·)) := by
  obtain ⟨⟨l, p⟩, nc, ok⟩ := h
  refine ⟨⟨l1 ++ l, e1.trans p.ext, fun k hk => ?_⟩, ?_, fun vs hvs => ?_⟩
  · rcases List.mem_append.1 hk with hk | hk
    · exact ⟨b, List.mem_cons_self, hanc k hk⟩
    · obtain ⟨b', hb', ha⟩ := p.anc k hk
      rw [e1.anc] at ha
      exact ⟨b', List.mem_cons_of_mem _ hb', ha⟩
  · cases r with
    | ok _ => intro h; cases h
    | error e => exact nc
  · cases r with
    | error e => cases hvs
    | ok vs' =>
      obtain rfl : v :: vs' = vs := Except.ok.inj hvs
      obtain ⟨hm, hd'⟩ := ok vs' rfl
      refine ⟨by simp only [List.mapM_cons, p.ext.valueOf_mono hv, hm]; rfl, fun b' hb' k hk hp => ?_⟩
      rcases List.mem_cons.1 hb' with rfl | hb'
      · exact (p.ext.evaluated k).2 (.inl (hd b' (List.mem_singleton_self _) k hk hp))
      · rw [← e1.anc] at hk
        rw [← e1.isParam] at hp
        exact hd' b' hb' k hk hp

theorem KindOK.le_of_yield {kind : Kind τ} {args : List Addr} {nret : Nat} (h : KindOK kind args nret)
    {s : State τ} {n : NodeInfo τ} {xs ys : List τ} (hy : kind.yield s n xs = some ys) : nret ≤ ys.length := by
  cases kind with
  | param p => cases hy
  | rnd => cases hy; exact Nat.le_of_eq h
  | op sem => exact h xs ys hy

theorem valueOf?_storeValues {sA : State τ} {a : Addr} {o : OpInfo τ} {n : NodeInfo τ} {ys : List τ} {v : τ}
    (ho : sA.ops[a.oid]? = some o) (hnp : o.kind.isParam = false) (hn : o.rets[a.vid]? = some n)
    (hv : ys[a.vid]? = some v) : (sA.storeValues a.oid ys).valueOf? a = some v := by
  rw [storeValues_of_some ys ho]
  unfold State.valueOf?
  have hlt := (List.getElem?_eq_some_iff.1 ho).1
  simp only [List.getElem?_set, hlt, if_true]
  cases hk : o.kind with
  | param p => simp [hk, Kind.isParam] at hnp
  | rnd => simp [storeRets_getElem?, hn, hv]
  | op sem => simp [storeRets_getElem?, hn, hv]

theorem evaluated_storeValues {sA : State τ} {a : Addr} {o : OpInfo τ} {n : NodeInfo τ} {ys : List τ} {v : τ}
    (ho : sA.ops[a.oid]? = some o) (hn : o.rets[a.vid]? = some n)
    (hv : ys[a.vid]? = some v) : (sA.storeValues a.oid ys).evaluated a.oid := by
  rw [storeValues_of_some ys ho]
  unfold State.evaluated
  have hlt := (List.getElem?_eq_some_iff.1 ho).1
  simp only [List.getElem?_set, hlt, if_true]
  refine ⟨_, rfl, { n with value := some v }, ?_, rfl⟩
  apply List.mem_of_getElem? (i := a.vid)
  simp [storeRets_getElem?, hn, hv]

/-- an operator without values in a well-formed state, requested through its node `a` -/
structure Unevaluated (s : State τ) (a : Addr) (o : OpInfo τ) (n : NodeInfo τ) : Prop where
  wf : WF s
  op : s.ops[a.oid]? = some o
  node : o.rets[a.vid]? = some n
  nonparam : o.kind.isParam = false
  none : ∀ m ∈ o.rets, m.value = none

theorem Unevaluated.vid_zero {s : State τ} {a : Addr} {o : OpInfo τ} {n : NodeInfo τ} (u : Unevaluated s a o n)
    (hr : o.kind.isRnd = true) : a.vid = 0 := by
  have kok := u.wf.kind_ok _ o u.op
  have := (List.getElem?_eq_some_iff.1 u.node).1
  cases hk : o.kind with
  | rnd => rw [hk] at kok; simp only [KindOK] at kok; omega
  | param p => simp [hk, Kind.isRnd] at hr
  | op sem => simp [hk, Kind.isRnd] at hr

/-- the index at which `evalSelf` looks up the value it returns; a random source has one return value, so
its `0` is `a.vid` -/
theorem Unevaluated.idx {s : State τ} {a : Addr} {o : OpInfo τ} {n : NodeInfo τ} (u : Unevaluated s a o n) :
    (if o.kind.isRnd = true then 0 else a.vid) = a.vid := by
  split
  · exact (u.vid_zero ‹_›).symm
  · rfl

theorem Unevaluated.isParam {s : State τ} {a : Addr} {o : OpInfo τ} {n : NodeInfo τ} (u : Unevaluated s a o n) :
    s.isParam a.oid = false := by simp [State.isParam, u.op, u.nonparam]

theorem Unevaluated.args {s : State τ} {a : Addr} {o : OpInfo τ} {n : NodeInfo τ} (u : Unevaluated s a o n) :
    ∀ b ∈ o.args, s.validAddr b = true ∧ b.oid < a.oid :=
  fun b hb => ⟨(u.wf.args_lt _ o u.op b hb).2, (u.wf.args_lt _ o u.op b hb).1⟩

theorem Unevaluated.forwardRec_eq (T : TOps τ) (fuel : Nat) {s t : State τ} {a : Addr} {o : OpInfo τ} {n : NodeInfo τ}
    (u : Unevaluated s a o n) (ht : t.ops[a.oid]? = some o) :
    forwardRec T (fuel + 1) t a =
      match forwardArgsWith (forwardRec T fuel) t o.args with
      | (s1, .error e) => (s1, .error e)
      | (s1, .ok xs) => evalSelf o.kind n a s1 xs :=
  forwardRec_eval T fuel ht u.node (u.none n (List.mem_of_getElem? u.node)) u.nonparam

/-- fuel that suffices for the operator is one more than suffices for its arguments -/
theorem Unevaluated.fuel {s : State τ} {a : Addr} {o : OpInfo τ} {n : NodeInfo τ} (u : Unevaluated s a o n)
    {fuel : Nat} (h : a.oid < fuel) : ∃ f, fuel = f + 1 ∧ ∀ b ∈ o.args, b.oid < f :=
  ⟨fuel - 1, by omega, fun b hb => by have := (u.args b hb).2; omega⟩

theorem Unevaluated.valid {s : State τ} {a : Addr} {o : OpInfo τ} {n : NodeInfo τ} (u : Unevaluated s a o n) :
    s.validAddr a = true := validAddr_iff.2 ⟨o, u.op, (List.getElem?_eq_some_iff.1 u.node).1⟩

theorem evalSelf_spec {s1 : State τ} {a : Addr} {o : OpInfo τ} {n : NodeInfo τ} {xs : List τ}
    (u : Unevaluated s1 a o n) (hxs : o.args.mapM s1.valueOf? = some xs) :
    ∃ l, (∀ k ∈ l, k = a.oid) ∧ Ext s1 (evalSelf o.kind n a s1 xs).1 l ∧
      (evalSelf o.kind n a s1 xs).2 ≠ .error .crash ∧
      ∀ v, (evalSelf o.kind n a s1 xs).2 = .ok v →
        (evalSelf o.kind n a s1 xs).1.valueOf? a = some v ∧ (evalSelf o.kind n a s1 xs).1.evaluated a.oid := by
  have hidx := u.idx
  obtain ⟨w, ho, hn, hnp, hbefore⟩ := u
  unfold evalSelf
  rw [hidx]
  split
  · exact ⟨[], by simp, Ext.of_eq rfl rfl rfl rfl rfl, by simp, by simp⟩
  · cases hy : o.kind.yield s1 n xs with
    | none => exact ⟨[], by simp, Ext.of_eq rfl rfl rfl rfl rfl, by simp, by simp⟩
    | some ys =>
      have hlen := (w.kind_ok _ o ho).le_of_yield hy
      have hvid : a.vid < ys.length := Nat.lt_of_lt_of_le (List.getElem?_eq_some_iff.1 hn).1 hlen
      have hv := List.getElem?_eq_getElem hvid
      dsimp only [State.commit]
      refine ⟨[a.oid], by simp, ?_, by simp [hv], ?_⟩
      · refine Ext.step ho rfl rfl rfl rfl rfl hnp (by intro h; simp [h] at hn) hbefore hlen
          (fun b hb => Nat.ne_of_lt (w.args_lt _ o ho b hb).1) ⟨xs, hxs, ?_⟩ ?_
        · intro sem hk; rw [hk] at hy; exact hy
        · intro hr
          have h0 := (Unevaluated.mk w ho hn hnp hbefore).vid_zero hr
          cases hk : o.kind with
          | rnd => rw [hk] at hy; cases hy; exact ⟨n, h0 ▸ hn, rfl⟩
          | param p => simp [hk, Kind.isRnd] at hr
          | op sem => simp [hk, Kind.isRnd] at hr
      · intro v hv'
        simp only [hv, Except.ok.injEq] at hv'
        subst hv'
        refine ⟨valueOf?_storeValues ?_ hnp hn hv, evaluated_storeValues ?_ hn hv⟩ <;> exact ho

/-- a Parameter operator has no arguments: it is its only ancestor -/
theorem WF.anc_param {s : State τ} (w : WF s) {j k : Nat} (h : AncOf s j k) (hp : s.isParam k = true) : j = k := by
  rcases h.cases with rfl | ⟨o, b, ho, hb, _⟩
  · rfl
  · have := w.kind_ok _ o ho
    simp only [State.isParam, ho] at hp
    cases hk : o.kind with
    | param p => rw [hk] at this; simp only [KindOK] at this; simp [this.1] at hb
    | rnd => simp [hk, Kind.isParam] at hp
    | op sem => simp [hk, Kind.isParam] at hp

theorem WF.closed_anc {s : State τ} (w : WF s) {j k : Nat} (h : AncOf s j k) (hev : s.evaluated k)
    (hp : s.isParam j = false) : s.evaluated j := by
  induction h with
  | refl => exact hev
  | step hb h ih =>
    rename_i k b
    unfold State.argList at hb
    cases ho : s.ops[k]? with
    | none => simp [ho] at hb
    | some o =>
      simp only [ho] at hb
      by_cases hpb : s.isParam b.oid = true
      · rw [w.anc_param h hpb, hpb] at hp; cases hp
      · exact ih (w.closed k o ho hev b hb (by simpa using hpb))

theorem WF.anc_le {s : State τ} (w : WF s) {j k : Nat} (h : AncOf s j k) : j ≤ k := by
  induction h with
  | refl => exact Nat.le_refl _
  | step hb h ih =>
    rename_i k b
    unfold State.argList at hb
    cases ho : s.ops[k]? with
    | none => simp [ho] at hb
    | some o =>
      simp only [ho] at hb
      have := (w.args_lt k o ho b hb).1
      omega

theorem WF.done_of_value {s : State τ} (w : WF s) {a : Addr} {v : τ} (hv : s.valueOf? a = some v) :
    FwdDone s [a] s := by
  intro b hb k hk hp
  simp only [List.mem_singleton] at hb; subst hb
  by_cases hpa : s.isParam b.oid = true
  · rw [w.anc_param hk hpa, hpa] at hp; cases hp
  · exact w.closed_anc hk (evaluated_of_valueOf? hv (by simpa using hpa)) hp

theorem WF.node_cases {s : State τ} (w : WF s) {a : Addr} (hv : s.validAddr a = true) :
    (∃ v, s.valueOf? a = some v) ∨ ∃ o n, Unevaluated s a o n := by
  obtain ⟨o, ho, hvid⟩ := validAddr_iff.1 hv
  have hn : o.rets[a.vid]? = some o.rets[a.vid] := List.getElem?_eq_getElem hvid
  have kok := w.kind_ok _ o ho
  cases hval : (o.rets[a.vid]).value with
  | none =>
    cases hk : o.kind with
    | param p =>
      rw [hk] at kok; simp only [KindOK] at kok
      exact .inl ⟨s.params.value p, by simp [State.valueOf?, ho, hk, show a.vid = 0 by omega]⟩
    | rnd | op sem =>
      refine .inr ⟨o, _, w, ho, hn, by simp [hk, Kind.isParam], ?_⟩
      rcases w.all_or_none _ o ho with h | h
      · exact h
      · have := h _ (List.mem_of_getElem? hn); simp [hval] at this
  | some v =>
    cases hk : o.kind with
    | param p =>
      have := w.param_none _ o ho (by simp [hk, Kind.isParam]) _ (List.mem_of_getElem? hn)
      rw [this] at hval; cases hval
    | rnd | op sem => exact .inl ⟨v, by simp [State.valueOf?, ho, hk, hn, hval]⟩

theorem FwdPost.self {s s1 : State τ} {a : Addr} {o : OpInfo τ} {n : NodeInfo τ} {l : List Nat}
    (u : Unevaluated s a o n) (p : FwdPost s o.args s1 l) : Unevaluated s1 a o n := by
  refine ⟨p.ext.wf u.wf, ?_, u.node, u.nonparam, u.none⟩
  rw [p.ext.same]; exact u.op
  intro hmem
  obtain ⟨b, hb, hkb⟩ := p.anc _ hmem
  have := u.wf.anc_le hkb
  have := (u.args b hb).2
  omega

theorem evalSelf_after_args {s s1 : State τ} {a : Addr} {o : OpInfo τ} {n : NodeInfo τ} {xs : List τ}
    (u : Unevaluated s a o n) (sp : ArgsSpec s o.args s1 (.ok xs)) (u1 : Unevaluated s1 a o n)
    (hxs : o.args.mapM s1.valueOf? = some xs) :
    ∃ l, Ext s (evalSelf o.kind n a s1 xs).1 l ∧ (∀ k ∈ l, AncOf s k a.oid) ∧
      (evalSelf o.kind n a s1 xs).2 ≠ .error .crash ∧
      ∀ v, (evalSelf o.kind n a s1 xs).2 = .ok v →
        (evalSelf o.kind n a s1 xs).1.valueOf? a = some v ∧ FwdDone s [a] (evalSelf o.kind n a s1 xs).1 := by
  obtain ⟨l1, p1⟩ := sp.post
  obtain ⟨l2, hl2, e2, nc2, ok2⟩ := evalSelf_spec u1 hxs
  refine ⟨l1 ++ l2, p1.ext.trans e2, fun k hk => ?_, nc2, fun v hv => ?_⟩
  · rcases List.mem_append.1 hk with hk | hk
    · obtain ⟨b, hb, hkb⟩ := p1.anc k hk
      exact AncOf.of_arg u.op hb hkb
    · exact hl2 k hk ▸ AncOf.refl s a.oid
  · obtain ⟨hv1, hev⟩ := ok2 v hv
    refine ⟨hv1, fun b hb k hk hp => ?_⟩
    simp only [List.mem_singleton] at hb; subst hb
    rcases hk.cases with rfl | ⟨o', b', ho', hb', hk'⟩
    · exact hev
    · rw [u.op] at ho'; cases ho'
      exact (e2.evaluated k).2 (.inl ((sp.ok xs rfl).2 b' hb' k hk' hp))

/-- What `forwardArgsWith (forwardRec T fuel) s bs` does in a well-formed state, for any
sufficient fuel: the cases of the recursion, each with the facts about the intermediate states
that an argument about a run needs.  A request for one node `a` is the list `[a]`. -/
inductive Run : State τ → List Addr → State τ → Except Err (List τ) → Prop
  | nil {s : State τ} : WF s → Run s [] s (.ok [])
  /-- the node shows a value: nothing is evaluated for it -/
  | stored {s s' : State τ} {b : Addr} {rest : List Addr} {r : Except Err (List τ)} {v : τ} :
    WF s → s.validAddr b = true → s.valueOf? b = some v → Run s rest s' r →
    Run s (b :: rest) s' (r.map (v :: ·))
  /-- an argument of the node's operator fails -/
  | argsFail {s s1 : State τ} {b : Addr} {rest : List Addr} {o : OpInfo τ} {n : NodeInfo τ} {e : Err} :
    Unevaluated s b o n → Run s o.args s1 (.error e) → Unevaluated s1 b o n → Run s (b :: rest) s1 (.error e)
  /-- the operator's own forward fails -/
  | selfFail {s s1 s2 : State τ} {b : Addr} {rest : List Addr} {o : OpInfo τ} {n : NodeInfo τ} {xs : List τ}
      {e : Err} :
    Unevaluated s b o n → Run s o.args s1 (.ok xs) → Unevaluated s1 b o n →
    o.args.mapM s1.valueOf? = some xs → evalSelf o.kind n b s1 xs = (s2, .error e) →
    Run s (b :: rest) s2 (.error e)
  /-- the operator is evaluated, then the remaining nodes -/
  | eval {s s1 s2 s3 : State τ} {b : Addr} {rest : List Addr} {o : OpInfo τ} {n : NodeInfo τ} {xs : List τ}
      {v : τ} {r : Except Err (List τ)} :
    Unevaluated s b o n → Run s o.args s1 (.ok xs) → Unevaluated s1 b o n →
    o.args.mapM s1.valueOf? = some xs → evalSelf o.kind n b s1 xs = (s2, .ok v) → Run s2 rest s3 r →
    Run s (b :: rest) s3 (r.map (v :: ·))

theorem Run.wf {s s' : State τ} {bs : List Addr} {r : Except Err (List τ)} (h : Run s bs s' r) : WF s := by
  cases h with
  | nil w => exact w
  | stored w => exact w
  | argsFail u => exact u.wf
  | selfFail u => exact u.wf
  | eval u => exact u.wf

/-- What a run guarantees: the state is extended by evaluations of ancestors of the requested nodes,
nothing crashes, and on success the values are there and every non-parameter ancestor is evaluated. -/
theorem Run.spec {s s' : State τ} {bs : List Addr} {r : Except Err (List τ)} (h : Run s bs s' r) :
    ArgsSpec s bs s' r := by
  induction h with
  | nil => exact ⟨⟨[], Ext.refl _, by simp⟩, by simp, fun vs h => by cases h; exact ⟨rfl, by simp [FwdDone]⟩⟩
  | stored w _ hval _ ih => exact ArgsSpec.cons (Ext.refl _) (by simp) hval (w.done_of_value hval) ih
  | argsFail u _ _ ih =>
    obtain ⟨⟨l, p⟩, nc, -⟩ := ih
    refine ⟨⟨l, p.ext, fun k hk => ?_⟩, nc, fun vs h => by cases h⟩
    obtain ⟨b', hb', ha⟩ := p.anc k hk
    exact ⟨_, List.mem_cons_self, AncOf.of_arg u.op hb' ha⟩
  | selfFail u _ u1 hxs he ih =>
    obtain ⟨l, e, hanc, nc, -⟩ := evalSelf_after_args u ih u1 hxs
    rw [he] at e nc
    exact ⟨⟨l, e, fun k hk => ⟨_, List.mem_cons_self, hanc k hk⟩⟩, fun h => nc (by cases h; rfl),
      fun vs h => by cases h⟩
  | eval u _ u1 hxs he _ ih1 ih2 =>
    obtain ⟨l, e, hanc, -, ok⟩ := evalSelf_after_args u ih1 u1 hxs
    rw [he] at e ok
    exact ArgsSpec.cons e hanc (ok _ rfl).1 (ok _ rfl).2 ih2

theorem Run.ext {s s' : State τ} {bs : List Addr} {r : Except Err (List τ)} (h : Run s bs s' r) :
    ∃ l, Ext s s' l :=
  let ⟨l, p⟩ := h.spec.post; ⟨l, p.ext⟩

theorem forwardArgs_run (T : TOps τ) (fuel : Nat) :
    ∀ (s : State τ) (bs : List Addr), WF s → (∀ b ∈ bs, s.validAddr b = true ∧ b.oid < fuel) →
      Run s bs (forwardArgsWith (forwardRec T fuel) s bs).1 (forwardArgsWith (forwardRec T fuel) s bs).2 := by
  induction fuel with
  | zero =>
    intro s bs w hbs
    cases bs with
    | nil => exact Run.nil w
    | cons b rest => have := (hbs b List.mem_cons_self).2; omega
  | succ fuel ih =>
    intro s bs
    induction bs generalizing s with
    | nil => intro w _; exact Run.nil w
    | cons b rest ihl =>
      intro w hbs
      have hb := hbs b List.mem_cons_self
      rw [forwardArgsWith_cons]
      rcases w.node_cases hb.1 with ⟨v, hval⟩ | ⟨o, n, u⟩
      · rw [forwardRec_stored T hb.1 hb.2 hval]
        exact Run.stored w hb.1 hval (ihl s w (fun b' hb' => hbs b' (List.mem_cons_of_mem _ hb')))
      · have r1 := ih s o.args w (fun b' hb' => ⟨(u.args b' hb').1, by have := (u.args b' hb').2; omega⟩)
        rw [u.forwardRec_eq T fuel u.op]
        rcases h1 : forwardArgsWith (forwardRec T fuel) s o.args with ⟨s1, r1'⟩
        rw [h1] at r1
        simp only at r1 ⊢
        -- what the run of the arguments guarantees makes the next step a case of `Run`
        obtain ⟨l1, p1⟩ := r1.spec.post
        have u1 := p1.self u
        cases r1' with
        | error e => exact Run.argsFail u r1 u1
        | ok xs =>
          have hxs := (r1.spec.ok xs rfl).1
          obtain ⟨l2, _, e2, _⟩ := evalSelf_spec u1 hxs
          simp only
          rcases h2 : evalSelf o.kind n b s1 xs with ⟨s2, r2⟩
          rw [h2] at e2
          cases r2 with
          | error e => exact Run.selfFail u r1 u1 hxs h2
          | ok v =>
            exact Run.eval u r1 u1 hxs h2 (ihl s2 (e2.wf u1.wf) (fun b' hb' => by
              rw [e2.validAddr, p1.ext.validAddr]; exact hbs b' (List.mem_cons_of_mem _ hb')))

theorem forward_run (T : TOps τ) {s : State τ} {a : Addr} (w : WF s) (hv : s.validAddr a = true) :
    Run s [a] (forward T s a).1 ((forward T s a).2.map ([·])) := by
  have := forwardArgs_run T (a.oid + 1) s [a] w (by simpa using hv)
  rw [forwardArgsWith_singleton] at this
  unfold forward
  rw [if_pos hv]
  exact this

/-! ## `forward`, `backward`, `addOperator` keep `WF` -/

theorem forward_spec (T : TOps τ) {s : State τ} {a : Addr} (w : WF s) (hv : s.validAddr a = true) :
    ArgsSpec s [a] (forward T s a).1 ((forward T s a).2.map ([·])) :=
  (forward_run T w hv).spec

theorem forward_nocrash (T : TOps τ) {s : State τ} {a : Addr} (w : WF s) (hv : s.validAddr a = true) :
    (forward T s a).2 ≠ .error .crash :=
  fun h => (forward_spec T w hv).nocrash (by rw [h]; rfl)

theorem forward_error (T : TOps τ) {s : State τ} {a : Addr} (w : WF s) (hv : s.validAddr a = true) {e : Err}
    (he : (forward T s a).2 = .error e) : e = .error := by
  cases e with
  | error => rfl
  | crash => exact absurd he (forward_nocrash T w hv)

theorem forward_done (T : TOps τ) {s : State τ} {a : Addr} (w : WF s) (hv : s.validAddr a = true) {v : τ}
    (hok : (forward T s a).2 = .ok v) : FwdDone s [a] (forward T s a).1 :=
  ((forward_spec T w hv).ok [v] (by rw [hok]; rfl)).2

theorem forward_ext (T : TOps τ) {s : State τ} (a : Addr) (w : WF s) :
    ∃ l, Ext s (forward T s a).1 l ∧ ∀ k ∈ l, AncOf s k a.oid := by
  by_cases hv : s.validAddr a = true
  · obtain ⟨l, p⟩ := (forward_spec T w hv).post
    refine ⟨l, p.ext, fun k hk => ?_⟩
    obtain ⟨b, hb, h⟩ := p.anc k hk
    simp only [List.mem_singleton] at hb; subst hb; exact h
  · unfold forward; rw [if_neg hv]; exact ⟨[], Ext.refl s, by simp⟩

theorem fwdPhase_ext (T : TOps τ) {s : State τ} (a : Addr) (w : WF s) :
    ∃ l, Ext s (fwdPhase T s a).1 l ∧ ∀ k ∈ l, AncOf s k a.oid := by
  unfold fwdPhase
  split
  · split
    · exact ⟨[], Ext.refl s, by simp⟩
    · have := forward_ext T a w
      rcases hf : forward T s a with ⟨s1, r⟩
      rw [hf] at this
      cases r <;> exact this
  · exact ⟨[], Ext.refl s, by simp⟩

/-- `backward` = a forward (possibly) followed by gradient-only updates -/
theorem backward_ext (T : TOps τ) {s : State τ} (a : Addr) (w : WF s) :
    ∃ l s1, Ext s s1 l ∧ (∀ k ∈ l, AncOf s k a.oid) ∧ SameVals s1 (backward T s a).1 := by
  obtain ⟨l, e, hl⟩ := fwdPhase_ext T a w
  exact ⟨l, _, e, hl, (backward_sameFrame T s a).sameVals⟩

theorem backward_wf (T : TOps τ) {s : State τ} (a : Addr) (w : WF s) : WF (backward T s a).1 := by
  obtain ⟨l, s1, e, _, sv⟩ := backward_ext T a w
  exact sv.wf (e.wf w)

theorem forward_wf (T : TOps τ) {s : State τ} (a : Addr) (w : WF s) : WF (forward T s a).1 := by
  obtain ⟨l, e, _⟩ := forward_ext T a w
  exact e.wf w

def State.push (s : State τ) (o : OpInfo τ) : State τ := { s with ops := s.ops ++ [o] }

def freshOp (kind : Kind τ) (args : List Addr) (sizes : List Nat) : OpInfo τ :=
  { kind := kind, args := args, rets := sizes.map fun n => ({ size := n } : NodeInfo τ) }

theorem addOperator_eq (s : State τ) (kind : Kind τ) (args : List Addr) (sizes : List Nat) :
    addOperator s kind args sizes =
      if args.all s.validAddr then .ok (s.push (freshOp kind args sizes), s.ops.length) else .error .crash := rfl

theorem addOperator_ok {s s' : State τ} {kind : Kind τ} {args : List Addr} {sizes : List Nat} {id : Nat}
    (h : addOperator s kind args sizes = .ok (s', id)) :
    args.all s.validAddr = true ∧ s' = s.push (freshOp kind args sizes) ∧ id = s.ops.length := by
  rw [addOperator_eq] at h
  split at h
  · rename_i hall
    cases h
    exact ⟨hall, rfl, rfl⟩
  · cases h

theorem push_getElem?_lt {s : State τ} {o : OpInfo τ} {k : Nat} (h : k < s.ops.length) :
    (s.push o).ops[k]? = s.ops[k]? := by
  simp [State.push, List.getElem?_append_left h]

theorem push_getElem?_some {s : State τ} {o o' : OpInfo τ} {k : Nat} (h : s.ops[k]? = some o') :
    (s.push o).ops[k]? = some o' := by
  rw [push_getElem?_lt (List.getElem?_eq_some_iff.1 h).1, h]

theorem push_getElem?_cases {s : State τ} {o o' : OpInfo τ} {k : Nat} (h : (s.push o).ops[k]? = some o') :
    s.ops[k]? = some o' ∨ (k = s.ops.length ∧ o' = o) := by
  by_cases hk : k < s.ops.length
  · left; rw [← push_getElem?_lt hk]; exact h
  · right
    have hlen := (List.getElem?_eq_some_iff.1 h).1
    simp only [State.push, List.length_append, List.length_singleton] at hlen
    have : k = s.ops.length := by omega
    subst this
    simp [State.push] at h
    exact ⟨rfl, h.symm⟩

theorem validAddr_push {s : State τ} {o : OpInfo τ} {a : Addr} (h : s.validAddr a = true) :
    (s.push o).validAddr a = true := by
  obtain ⟨o', ho', hv⟩ := validAddr_iff.1 h
  exact validAddr_iff.2 ⟨o', push_getElem?_some ho', hv⟩

theorem evaluated_push {s : State τ} {o : OpInfo τ} (hnone : ∀ n ∈ o.rets, n.value = none) (k : Nat) :
    (s.push o).evaluated k ↔ s.evaluated k := by
  constructor
  · rintro ⟨o', ho', n, hn, hv⟩
    rcases push_getElem?_cases ho' with h | ⟨_, rfl⟩
    · exact ⟨o', h, n, hn, hv⟩
    · simp [hnone n hn] at hv
  · rintro ⟨o', ho', n, hn, hv⟩
    exact ⟨o', push_getElem?_some ho', n, hn, hv⟩

theorem isParam_push {s : State τ} {o : OpInfo τ} {k : Nat} (hk : k < s.ops.length) :
    (s.push o).isParam k = s.isParam k := by
  simp [State.isParam, push_getElem?_lt hk]

theorem isRnd_push {s : State τ} {o : OpInfo τ} {k : Nat} (hk : k < s.ops.length) :
    (s.push o).isRnd k = s.isRnd k := by
  simp [State.isRnd, push_getElem?_lt hk]

theorem evaluated_lt {s : State τ} {k : Nat} (h : s.evaluated k) : k < s.ops.length := by
  obtain ⟨o, ho, _⟩ := h
  exact (List.getElem?_eq_some_iff.1 ho).1

theorem WF.push {s : State τ} (w : WF s) {o : OpInfo τ} (hargs : ∀ a ∈ o.args, s.validAddr a = true)
    (hk : KindOK o.kind o.args o.rets.length) (hnone : ∀ n ∈ o.rets, n.value = none) : WF (s.push o) := by
  constructor
  · intro k o' ho' a ha
    rcases push_getElem?_cases ho' with h | ⟨rfl, rfl⟩
    · have := w.args_lt k o' h a ha
      exact ⟨this.1, validAddr_push this.2⟩
    · exact ⟨validAddr_lt (hargs a ha), validAddr_push (hargs a ha)⟩
  · intro k o' ho'
    rcases push_getElem?_cases ho' with h | ⟨rfl, rfl⟩
    · exact w.kind_ok k o' h
    · exact hk
  · intro k o' ho'
    rcases push_getElem?_cases ho' with h | ⟨rfl, rfl⟩
    · exact w.all_or_none k o' h
    · exact .inl hnone
  · intro k o' ho' hp
    rcases push_getElem?_cases ho' with h | ⟨rfl, rfl⟩
    · exact w.param_none k o' h hp
    · exact hnone
  · intro k o' ho' hev b hb hp
    rw [evaluated_push hnone] at hev ⊢
    rcases push_getElem?_cases ho' with h | ⟨rfl, rfl⟩
    · have hlt := validAddr_lt (w.args_lt k o' h b hb).2
      rw [isParam_push hlt] at hp
      exact w.closed k o' h hev b hb hp
    · exact absurd (evaluated_lt hev) (Nat.lt_irrefl _)
  · intro k
    rw [evaluated_push hnone]
    exact w.log_iff k
  · exact w.log_nodup
  · show s.rndPos = s.log.countP (s.push o).isRnd
    rw [w.rnd_count]
    apply List.countP_congr
    intro k hk
    rw [isRnd_push (evaluated_lt ((w.log_iff k).1 hk))]
  · intro i k hik
    have hf : s.log.filter (s.push o).isRnd = s.log.filter s.isRnd :=
      List.filter_congr (fun k hk => isRnd_push (evaluated_lt ((w.log_iff k).1 hk)))
    change (s.log.filter (s.push o).isRnd)[i]? = some k at hik
    rw [hf] at hik
    obtain ⟨o1, n, e1, e2, e3⟩ := w.rnd_vals i k hik
    exact ⟨o1, n, push_getElem?_some e1, e2, e3⟩

theorem addOperator_wf {s s' : State τ} {kind : Kind τ} {args : List Addr} {sizes : List Nat} {id : Nat}
    (w : WF s) (hk : KindOK kind args sizes.length)
    (h : addOperator s kind args sizes = .ok (s', id)) : WF s' := by
  obtain ⟨hall, rfl, -⟩ := addOperator_ok h
  exact w.push (by simpa [freshOp] using hall) (by simpa [freshOp] using hk) (by simp [freshOp])

/-- the operations a program can apply to a graph (and to the parameters it uses) -/
inductive Op (τ : Type) where
  | addOperator (kind : Kind τ) (args : List Addr) (sizes : List Nat)
  | forward (a : Addr)
  | backward (a : Addr)
  /-- an optimizer update (or any other in-place write) of a parameter value -/
  | setParamValue (p : Nat) (v : τ)
  /-- schedule a failure of the (k+1)-th operator forward from now -/
  | setFail (k : Nat)

def State.setParamValue (s : State τ) (p : Nat) (v : τ) : State τ :=
  { s with params := { s.params with value := fun q => if q = p then v else s.params.value q } }

/-- one operation; a failing operation keeps the state it reached, as the model does -/
def step (T : TOps τ) (s : State τ) : Op τ → State τ
  | .addOperator kind args sizes =>
    match addOperator s kind args sizes with
    | .ok (s', _) => s'
    | .error _ => s
  | .forward a => (forward T s a).1
  | .backward a => (backward T s a).1
  | .setParamValue p v => s.setParamValue p v
  | .setFail k => { s with failIn := some k }

def run (T : TOps τ) (s : State τ) (h : List (Op τ)) : State τ := h.foldl (step T) s

/-- the empty graph -/
def State.empty (params : Params τ) (sample : Nat → Nat → τ) : State τ :=
  { ops := [], params := params, sample := sample }

/-- operators obey the contract `KindOK` (see there) -/
def Op.Admissible : Op τ → Prop
  | .addOperator kind args sizes => KindOK kind args sizes.length
  | _ => True

theorem WF.empty (params : Params τ) (sample : Nat → Nat → τ) : WF (State.empty params sample) := by
  constructor <;> simp [State.empty, State.evaluated]

theorem step_wf (T : TOps τ) {s : State τ} (w : WF s) {op : Op τ} (hop : op.Admissible) :
    WF (step T s op) := by
  cases op with
  | addOperator kind args sizes =>
    simp only [step]
    cases h : addOperator s kind args sizes with
    | error e => exact w
    | ok r => obtain ⟨s', id⟩ := r; exact addOperator_wf w hop h
  | forward a => exact forward_wf T a w
  | backward a => exact backward_wf T a w
  | setParamValue p v => exact w.of_ops_eq rfl rfl rfl rfl
  | setFail k => exact w.of_ops_eq rfl rfl rfl rfl

theorem run_wf (T : TOps τ) {s : State τ} (w : WF s) (h : List (Op τ)) (hadm : ∀ op ∈ h, op.Admissible) :
    WF (run T s h) := by
  induction h generalizing s with
  | nil => exact w
  | cons op rest ih =>
    exact ih (step_wf T w (hadm op List.mem_cons_self)) (fun op' h' => hadm op' (List.mem_cons_of_mem _ h'))

theorem run_append (T : TOps τ) (s : State τ) (h h' : List (Op τ)) :
    run T s (h ++ h') = run T (run T s h) h' := by
  simp [run, List.foldl_append]

/-- the states a program can reach: an admissible history applied to the empty graph -/
def Reached (T : TOps τ) (s : State τ) : Prop :=
  ∃ (params : Params τ) (sample : Nat → Nat → τ) (h : List (Op τ)),
    (∀ op ∈ h, op.Admissible) ∧ s = run T (State.empty params sample) h

theorem Reached.wf {T : TOps τ} {s : State τ} (h : Reached T s) : WF s := by
  obtain ⟨params, sample, h, hadm, rfl⟩ := h
  exact run_wf T (WF.empty params sample) h hadm

theorem Reached.closed {T : TOps τ} {s : State τ} (hs : Reached T s) {h : List (Op τ)}
    (hadm : ∀ op ∈ h, op.Admissible) : Reached T (run T s h) := by
  obtain ⟨params, sample, h0, hadm0, rfl⟩ := hs
  exact ⟨params, sample, h0 ++ h, fun op hop => (List.mem_append.1 hop).elim (hadm0 op) (hadm op),
    (run_append T _ h0 h).symm⟩

/-! ### every operation keeps structure and stored values (`Keeps`); values may be added -/

structure OpKeeps (o o' : OpInfo τ) : Prop where
  kind : o'.kind = o.kind
  args : o'.args = o.args
  sizes : o'.rets.map (·.size) = o.rets.map (·.size)
  mono : ∀ (i : Nat) (n : NodeInfo τ) (v : τ), o.rets[i]? = some n → n.value = some v →
    ∃ n', o'.rets[i]? = some n' ∧ n'.value = some v

def Keeps (s s' : State τ) : Prop :=
  ∀ (k : Nat) (o : OpInfo τ), s.ops[k]? = some o → ∃ o', s'.ops[k]? = some o' ∧ OpKeeps o o'

theorem OpKeeps.refl (o : OpInfo τ) : OpKeeps o o := ⟨rfl, rfl, rfl, fun _ n _ h hv => ⟨n, h, hv⟩⟩

theorem Keeps.refl (s : State τ) : Keeps s s := fun _ o ho => ⟨o, ho, OpKeeps.refl o⟩

theorem Keeps.of_ops_eq {s s' : State τ} (h : s'.ops = s.ops) : Keeps s s' :=
  fun _ o ho => ⟨o, h ▸ ho, OpKeeps.refl o⟩

theorem Keeps.trans {s s1 s2 : State τ} (h1 : Keeps s s1) (h2 : Keeps s1 s2) : Keeps s s2 := by
  intro k o ho
  obtain ⟨o1, ho1, k1⟩ := h1 k o ho
  obtain ⟨o2, ho2, k2⟩ := h2 k o1 ho1
  refine ⟨o2, ho2, k2.kind.trans k1.kind, k2.args.trans k1.args, k2.sizes.trans k1.sizes, ?_⟩
  intro i n v hn hv
  obtain ⟨n1, hn1, hv1⟩ := k1.mono i n v hn hv
  exact k2.mono i n1 v hn1 hv1

theorem Ext.keeps {s s' : State τ} {l : List Nat} (h : Ext s s' l) : Keeps s s' := by
  intro k o ho
  rcases h.cases k with ⟨h1, _⟩ | ⟨o1, o', h1, h2, g⟩
  · rw [ho] at h1; cases h1
  · rw [ho] at h1; cases h1
    exact ⟨o', h2, g.kind, g.args, g.sizes, g.mono⟩

theorem SameVals.keeps {s s' : State τ} (h : SameVals s s') : Keeps s s' := by
  intro k o ho
  obtain ⟨o', ho', e1, e2, _, e4, e5⟩ := skel_op h.sameFrame.skel ho
  refine ⟨o', ho', e1, e2, e5, ?_⟩
  intro i n v hn hv
  have := map_value_getElem? e4 i
  rw [hn] at this
  cases hn' : o'.rets[i]? with
  | none => simp [hn'] at this
  | some n' => simp [hn'] at this; exact ⟨n', rfl, by rw [this, hv]⟩

theorem Keeps.push (s : State τ) (o : OpInfo τ) : Keeps s (s.push o) :=
  fun _ o' ho' => ⟨o', push_getElem?_some ho', OpKeeps.refl o'⟩

theorem step_keeps (T : TOps τ) {s : State τ} (w : WF s) (op : Op τ) : Keeps s (step T s op) := by
  cases op with
  | addOperator kind args sizes =>
    simp only [step]
    rw [addOperator_eq]
    by_cases hall : args.all s.validAddr = true
    · rw [if_pos hall]; exact Keeps.push s _
    · rw [if_neg hall]; exact Keeps.refl s
  | forward a =>
    obtain ⟨l, e, _⟩ := forward_ext T a w
    exact e.keeps
  | backward a =>
    obtain ⟨l, s1, e, _, sv⟩ := backward_ext T a w
    exact e.keeps.trans sv.keeps
  | setParamValue p v => exact Keeps.of_ops_eq rfl
  | setFail k => exact Keeps.of_ops_eq rfl

theorem run_keeps (T : TOps τ) {s : State τ} (w : WF s) (h : List (Op τ)) (hadm : ∀ op ∈ h, op.Admissible) :
    Keeps s (run T s h) := by
  induction h generalizing s with
  | nil => exact Keeps.refl s
  | cons op rest ih =>
    exact (step_keeps T w op).trans
      (ih (step_wf T w (hadm op List.mem_cons_self)) (fun op' h' => hadm op' (List.mem_cons_of_mem _ h')))

theorem Keeps.node {s s' : State τ} (h : Keeps s s') {a : Addr} {n : NodeInfo τ} {v : τ}
    (hn : s.node? a = some n) (hv : n.value = some v) : ∃ n', s'.node? a = some n' ∧ n'.value = some v := by
  unfold State.node? at hn ⊢
  cases ho : s.ops[a.oid]? with
  | none => simp [ho] at hn
  | some o =>
    simp only [ho] at hn
    obtain ⟨o', ho', k⟩ := h _ o ho
    simp only [ho']
    exact k.mono a.vid n v hn hv

/-! ### what a request evaluates -/

theorem Ext.fresh {s s' : State τ} {l : List Nat} (h : Ext s s' l) {k : Nat} (hk : k ∈ l) :
    ¬ s.evaluated k ∧ s.isParam k = false := by
  obtain ⟨o, o', ho, _, st⟩ := h.stored k hk
  refine ⟨?_, by simp [State.isParam, ho, st.nonparam]⟩
  rintro ⟨o2, ho2, n, hn, hv⟩
  rw [ho] at ho2; cases ho2
  simp [st.before n hn] at hv

/-- the operators a request evaluates: each once, only ancestors, only unevaluated non-parameters -/
structure Evaluates (s : State τ) (top : Nat) (s' : State τ) (l : List Nat) : Prop where
  log : s'.log = s.log ++ l
  nodup : l.Nodup
  only : ∀ k ∈ l, AncOf s k top ∧ ¬ s.evaluated k ∧ s.isParam k = false
  rndPos : s'.rndPos = s.rndPos + l.countP s.isRnd

theorem forward_evaluates (T : TOps τ) {s : State τ} (w : WF s) (a : Addr) :
    ∃ l, Evaluates s a.oid (forward T s a).1 l := by
  obtain ⟨l, e, hl⟩ := forward_ext T a w
  exact ⟨l, e.log, e.nodup, fun k hk => ⟨hl k hk, e.fresh hk⟩, e.rndPos⟩

theorem backward_evaluates (T : TOps τ) {s : State τ} (w : WF s) (a : Addr) :
    ∃ l, Evaluates s a.oid (backward T s a).1 l := by
  obtain ⟨l, s1, e, hl, sv⟩ := backward_ext T a w
  exact ⟨l, by rw [sv.log, e.log], e.nodup, fun k hk => ⟨hl k hk, e.fresh hk⟩, by rw [sv.rndPos, e.rndPos]⟩

theorem Evaluates.unique {s s' : State τ} {top top' : Nat} {l l' : List Nat}
    (h : Evaluates s top s' l) (h' : Evaluates s top' s' l') : l = l' :=
  List.append_cancel_left (h.log.symm.trans h'.log)

theorem forward_complete (T : TOps τ) {s : State τ} (w : WF s) {a : Addr} (hv : s.validAddr a = true)
    {v : τ} (hok : (forward T s a).2 = .ok v) {l : List Nat} (hl : Evaluates s a.oid (forward T s a).1 l)
    {k : Nat} (hk : AncOf s k a.oid) (hne : ¬ s.evaluated k) (hp : s.isParam k = false) : k ∈ l := by
  obtain ⟨l', p⟩ := (forward_spec T w hv).post
  have : l = l' := List.append_cancel_left (hl.log.symm.trans p.ext.log)
  subst this
  have := forward_done T w hv hok a (List.mem_singleton_self a) k hk hp
  rcases (p.ext.evaluated k).1 this with h | h
  · exact absurd h hne
  · exact h

theorem forward_value (T : TOps τ) {s : State τ} (w : WF s) {a : Addr} (hv : s.validAddr a = true)
    {v : τ} (hok : (forward T s a).2 = .ok v) : (forward T s a).1.valueOf? a = some v := by
  simpa [Option.bind_eq_some_iff] using ((forward_spec T w hv).ok [v] (by rw [hok]; rfl)).1

theorem valueOf?_of_node {s : State τ} (w : WF s) {a : Addr} {n : NodeInfo τ} {v : τ}
    (hn : s.node? a = some n) (hval : n.value = some v) : s.valueOf? a = some v := by
  unfold State.node? at hn
  cases ho : s.ops[a.oid]? with
  | none => simp [ho] at hn
  | some o =>
    simp only [ho] at hn
    unfold State.valueOf?
    simp only [ho]
    cases hk : o.kind with
    | param p =>
      have := w.param_none _ o ho (by simp [hk, Kind.isParam]) n (List.mem_of_getElem? hn)
      rw [this] at hval; cases hval
    | rnd => simp [hn, hval]
    | op sem => simp [hn, hval]

theorem validAddr_of_node {s : State τ} {a : Addr} {n : NodeInfo τ} (hn : s.node? a = some n) :
    s.validAddr a = true := by
  unfold State.node? at hn
  cases ho : s.ops[a.oid]? with
  | none => simp [ho] at hn
  | some o =>
    simp only [ho] at hn
    exact validAddr_iff.2 ⟨o, ho, (List.getElem?_eq_some_iff.1 hn).1⟩

/-- memoisation: a stored value is returned as it is, nothing is evaluated -/
theorem forward_memo (T : TOps τ) {s : State τ} (w : WF s) {a : Addr} {n : NodeInfo τ} {v : τ}
    (hn : s.node? a = some n) (hval : n.value = some v) : forward T s a = (s, .ok v) := by
  unfold forward
  rw [if_pos (validAddr_of_node hn)]
  exact forwardRec_stored T (validAddr_of_node hn) (Nat.lt_succ_self _) (valueOf?_of_node w hn hval)

/-! ### operators added later, and the amount of fuel, do not matter -/

theorem appendOps_nil (s : State τ) : s.appendOps [] = s := by simp [State.appendOps]

theorem appendOps_getElem?_some {s : State τ} {k : Nat} {o : OpInfo τ} (os : List (OpInfo τ))
    (h : s.ops[k]? = some o) : (s.appendOps os).ops[k]? = some o := by
  rw [← h]; exact List.getElem?_append_left (List.getElem?_eq_some_iff.1 h).1

theorem validAddr_appendOps {s : State τ} {a : Addr} (os : List (OpInfo τ)) (h : s.validAddr a = true) :
    (s.appendOps os).validAddr a = true := by
  obtain ⟨o, ho, hv⟩ := validAddr_iff.1 h
  exact validAddr_iff.2 ⟨o, appendOps_getElem?_some os ho, hv⟩

theorem valueOf?_appendOps {s : State τ} {a : Addr} {v : τ} (os : List (OpInfo τ)) (h : s.valueOf? a = some v) :
    (s.appendOps os).valueOf? a = some v := by
  cases ho : s.ops[a.oid]? with
  | none => simp [State.valueOf?, ho] at h
  | some o =>
    rw [← h]
    exact State.valueOf?_congr (s := s) (s' := s.appendOps os) (by rw [appendOps_getElem?_some os ho, ho]) rfl

/-- a run is reproduced, with any sufficient fuel, on the state with more operators appended -/
theorem Run.appendOps (T : TOps τ) {s s' : State τ} {bs : List Addr} {r : Except Err (List τ)} (h : Run s bs s' r)
    (os : List (OpInfo τ)) : ∀ fuel, (∀ b ∈ bs, b.oid < fuel) →
      forwardArgsWith (forwardRec T fuel) (s.appendOps os) bs = (s'.appendOps os, r) := by
  induction h with
  | nil => intro _ _; rfl
  | @stored s s' b rest r v _ hv hval _ ih =>
    intro fuel hlt
    rw [forwardArgsWith_cons, forwardRec_stored T (validAddr_appendOps os hv) (hlt b List.mem_cons_self)
      (valueOf?_appendOps os hval)]
    simp only [ih fuel (fun b' hb' => hlt b' (List.mem_cons_of_mem _ hb'))]
  | @argsFail s s1 b rest o n e u _ _ ih =>
    intro fuel hlt
    obtain ⟨f, rfl, hargs⟩ := u.fuel (hlt b List.mem_cons_self)
    rw [forwardArgsWith_cons, u.forwardRec_eq T f (appendOps_getElem?_some os u.op)]
    simp only [ih f hargs]
  | @selfFail s s1 s2 b rest o n xs e u _ u1 _ he ih =>
    intro fuel hlt
    obtain ⟨f, rfl, hargs⟩ := u.fuel (hlt b List.mem_cons_self)
    rw [forwardArgsWith_cons, u.forwardRec_eq T f (appendOps_getElem?_some os u.op)]
    simp only [ih f hargs,
      evalSelf_appendOps os o.kind n xs (List.getElem?_eq_some_iff.1 u1.op).1, he]
  | @eval s s1 s2 s3 b rest o n xs v r u _ u1 _ he _ ih1 ih2 =>
    intro fuel hlt
    obtain ⟨f, rfl, hargs⟩ := u.fuel (hlt b List.mem_cons_self)
    rw [forwardArgsWith_cons, u.forwardRec_eq T f (appendOps_getElem?_some os u.op)]
    simp only [ih1 f hargs,
      evalSelf_appendOps os o.kind n xs (List.getElem?_eq_some_iff.1 u1.op).1, he,
      ih2 (f + 1) (fun b' hb' => hlt b' (List.mem_cons_of_mem _ hb'))]

theorem eq_of_forwardArgs_singleton {ev ev' : State τ → Addr → State τ × Except Err τ} {s s' : State τ} {a : Addr}
    {m : State τ → State τ}
    (h : forwardArgsWith ev' s' [a] = (m (forwardArgsWith ev s [a]).1, (forwardArgsWith ev s [a]).2)) :
    ev' s' a = (m (ev s a).1, (ev s a).2) := by
  rw [forwardArgsWith_singleton, forwardArgsWith_singleton] at h
  cases h1 : ev s a with
  | mk s1 r1 =>
    cases h2 : ev' s' a with
    | mk s2 r2 =>
      rw [h1, h2] at h
      simp only [Prod.mk.injEq] at h ⊢
      refine ⟨h.1, ?_⟩
      cases r1 <;> cases r2 <;> simp [Except.map] at h ⊢ <;> exact h.2

theorem forwardRec_appendOps (T : TOps τ) (os : List (OpInfo τ)) {fuel fuel' : Nat} {s : State τ} {a : Addr}
    (w : WF s) (hv : s.validAddr a = true) (h1 : a.oid < fuel) (h2 : a.oid < fuel') :
    forwardRec T fuel' (s.appendOps os) a = ((forwardRec T fuel s a).1.appendOps os, (forwardRec T fuel s a).2) :=
  eq_of_forwardArgs_singleton (m := (·.appendOps os))
    ((forwardArgs_run T fuel s [a] w (by simpa using ⟨hv, h1⟩)).appendOps T os fuel' (by simpa using h2))

theorem forwardRec_fuel (T : TOps τ) (f1 f2 : Nat) (s : State τ) (a : Addr) (w : WF s)
    (hv : s.validAddr a = true) (h1 : a.oid < f1) (h2 : a.oid < f2) :
    forwardRec T f1 s a = forwardRec T f2 s a := by
  have := forwardRec_appendOps T [] w hv h2 h1
  rwa [appendOps_nil, appendOps_nil] at this

theorem forward_appendOps (T : TOps τ) {s : State τ} (w : WF s) (os : List (OpInfo τ)) {a : Addr}
    (hv : s.validAddr a = true) :
    forward T (s.appendOps os) a = ((forward T s a).1.appendOps os, (forward T s a).2) := by
  unfold forward
  rw [if_pos hv, if_pos (validAddr_appendOps os hv)]
  exact forwardRec_appendOps T os w hv (Nat.lt_succ_self _) (Nat.lt_succ_self _)

theorem forward_push (T : TOps τ) {s : State τ} (w : WF s) (o : OpInfo τ) {a : Addr}
    (hv : s.validAddr a = true) :
    forward T (s.push o) a = ((forward T s a).1.push o, (forward T s a).2) :=
  forward_appendOps T w [o] hv

/-! ### the order of requests does not matter -/

/-- force the nodes in the given order (stops at the first failure) -/
def forceAll (T : TOps τ) : State τ → List Addr → State τ × Except Err (List τ) :=
  forwardArgsWith (forward T)

theorem forceAll_run (T : TOps τ) {s : State τ} (w : WF s) (as : List Addr)
    (has : ∀ a ∈ as, s.validAddr a = true) : Run s as (forceAll T s as).1 (forceAll T s as).2 := by
  have key : ∀ (F : Nat) (as : List Addr) (s : State τ), WF s → (∀ a ∈ as, s.validAddr a = true ∧ a.oid < F) →
      forceAll T s as = forwardArgsWith (forwardRec T F) s as := by
    intro F as
    induction as with
    | nil => intros; rfl
    | cons b rest ih =>
      intro s w hbs
      have hb := hbs b List.mem_cons_self
      have hfb : forward T s b = forwardRec T F s b := by
        unfold forward; rw [if_pos hb.1]
        exact forwardRec_fuel T _ _ s b w hb.1 (Nat.lt_succ_self _) hb.2
      obtain ⟨l1, e1, _⟩ := forward_ext T b w
      unfold forceAll
      rw [forwardArgsWith_cons, forwardArgsWith_cons, ← hfb]
      cases h1 : forward T s b with
      | mk s1 r1 =>
        rw [h1] at e1
        cases r1 with
        | error e => rfl
        | ok v =>
          have := ih s1 (e1.wf w) (fun b' hb' => by
            rw [e1.validAddr]; exact hbs b' (List.mem_cons_of_mem _ hb'))
          unfold forceAll at this
          simp only [this]
  rw [key s.ops.length as s w (fun a ha => ⟨has a ha, validAddr_lt (has a ha)⟩)]
  exact forwardArgs_run T _ s as w (fun a ha => ⟨has a ha, validAddr_lt (has a ha)⟩)

theorem forceAll_spec (T : TOps τ) {s : State τ} (w : WF s) (as : List Addr)
    (has : ∀ a ∈ as, s.validAddr a = true) : ArgsSpec s as (forceAll T s as).1 (forceAll T s as).2 :=
  (forceAll_run T w as has).spec

/-- nodes are determined by sizes, gradients and values; here the values are the entries of `ys` -/
theorem rets_eq_of_values {r r' : List (NodeInfo τ)} {ys : List τ} (h1 : r.map (·.size) = r'.map (·.size))
    (h2 : r.map (·.grad) = r'.map (·.grad)) (hv : ∀ (i : Nat) (n : NodeInfo τ), r[i]? = some n → n.value = ys[i]?)
    (hv' : ∀ (i : Nat) (n : NodeInfo τ), r'[i]? = some n → n.value = ys[i]?) : r = r' := by
  apply List.ext_getElem?
  intro i
  have e1 := congrArg (·[i]?) h1
  have e2 := congrArg (·[i]?) h2
  simp only [List.getElem?_map] at e1 e2
  cases h : r[i]? with
  | none => cases h' : r'[i]? with
    | none => rfl
    | some n' => simp [h, h'] at e1
  | some n => cases h' : r'[i]? with
    | none => simp [h, h'] at e1
    | some n' =>
      have e3 := (hv i n h).trans (hv' i n' h').symm
      simp only [h, h', Option.map_some, Option.some.injEq] at e1 e2
      cases n; cases n'; simp_all

theorem OpInfo.eq_of_values {o o' : OpInfo τ} {ys : List τ} (hk : o.kind = o'.kind) (ha : o.args = o'.args)
    (h1 : o.rets.map (·.size) = o'.rets.map (·.size)) (h2 : o.rets.map (·.grad) = o'.rets.map (·.grad))
    (hv : ∀ (i : Nat) (n : NodeInfo τ), o.rets[i]? = some n → n.value = ys[i]?)
    (hv' : ∀ (i : Nat) (n : NodeInfo τ), o'.rets[i]? = some n → n.value = ys[i]?) : o = o' := by
  have hrets := rets_eq_of_values h1 h2 hv hv'
  cases o; cases o'
  simp only at hk ha hrets
  simp only [OpInfo.mk.injEq]
  exact ⟨hk, ha, hrets⟩

/-- Two extensions of the same state, the first having evaluated a subset of the (deterministic)
operators of the second, agree on everything the first evaluated and on everything the second
did not touch. -/
theorem Ext.agree_sub {s s2 t2 : State τ} {l l' : List Nat} (w : WF s) (e : Ext s s2 l) (e' : Ext s t2 l')
    (hsub : ∀ k ∈ l, k ∈ l') (hdet : ∀ k ∈ l, s.isRnd k = false) :
    ∀ k : Nat, (k ∈ l ∨ k ∉ l') → s2.ops[k]? = t2.ops[k]? := by
  have w2 := e.wf w
  intro k
  induction k using Nat.strongRecOn with
  | _ k ih =>
    intro hcase
    by_cases hk : k ∈ l
    · have hk' := hsub k hk
      obtain ⟨o, o2, ho, ho2, st⟩ := e.stored k hk
      obtain ⟨o', o2', ho', ho2', st'⟩ := e'.stored k hk'
      rw [ho] at ho'; cases ho'
      rw [ho2, ho2']
      congr 1
      obtain ⟨xs, hxs, hsem⟩ := e.loc k hk o2 ho2
      obtain ⟨xs', hxs', hsem'⟩ := e'.loc k hk' o2' ho2'
      have hev2 : s2.evaluated k := (e.evaluated k).2 (.inr hk)
      have hargs : ∀ b ∈ o.args, s2.valueOf? b = t2.valueOf? b := by
        intro b hb
        have hlt := (w.args_lt k o ho b hb).1
        have hb2 : b ∈ o2.args := st.args ▸ hb
        -- an argument that `l'` evaluates is neither a Parameter nor evaluated in `s`: `l` evaluates it too
        have : b.oid ∈ l ∨ b.oid ∉ l' := Classical.or_iff_not_imp_right.2 fun hm => by
          obtain ⟨hne, hp⟩ := e'.fresh (Classical.not_not.1 hm)
          exact ((e.evaluated b.oid).1 (w2.closed k o2 ho2 hev2 b hb2 (by rw [e.isParam, hp]))).resolve_left hne
        have := ih b.oid hlt this
        unfold State.valueOf?
        rw [this, e.params, e'.params]
      rw [st.args, mapM_congr hargs] at hxs
      rw [st'.args, hxs] at hxs'
      cases hxs'
      have hdk := hdet k hk
      simp only [State.isRnd, ho] at hdk
      cases hkind : o.kind with
      | param p => have := st.nonparam; simp [hkind, Kind.isParam] at this
      | rnd => simp [hkind, Kind.isRnd] at hdk
      | op sem =>
        obtain ⟨ys, hys, hv⟩ := hsem sem (st.kind.trans hkind)
        obtain ⟨ys', hys', hv'⟩ := hsem' sem (st'.kind.trans hkind)
        rw [hys] at hys'; cases hys'
        exact OpInfo.eq_of_values (st.kind.trans st'.kind.symm) (st.args.trans st'.args.symm)
          (st.sizes.trans st'.sizes.symm) (st.grads.trans st'.grads.symm) hv hv'
    · have hk' : k ∉ l' := by rcases hcase with h | h; exact absurd h hk; exact h
      rw [e.same k hk, e'.same k hk']

/-- the operators evaluated by a successful `forceAll`: exactly the unevaluated non-parameter
ancestors of the requested nodes -/
theorem forceAll_exact (T : TOps τ) {s : State τ} (w : WF s) {as : List Addr}
    (has : ∀ a ∈ as, s.validAddr a = true) {vs : List τ} (hok : (forceAll T s as).2 = .ok vs) :
    ∃ l, Ext s (forceAll T s as).1 l ∧
      ∀ k, k ∈ l ↔ ((∃ a ∈ as, AncOf s k a.oid) ∧ ¬ s.evaluated k ∧ s.isParam k = false) := by
  have sp := forceAll_spec T w as has
  obtain ⟨l, p⟩ := sp.post
  refine ⟨l, p.ext, fun k => ⟨fun hk => ⟨p.anc k hk, p.ext.fresh hk⟩, ?_⟩⟩
  rintro ⟨⟨a, ha, hanc⟩, hne, hp⟩
  have := (sp.ok vs hok).2 a ha k hanc hp
  rcases (p.ext.evaluated k).1 this with h | h
  · exact absurd h hne
  · exact h

theorem forceAll_order_independent (T : TOps τ) {s : State τ} (w : WF s) {as as' : List Addr}
    (hmem : ∀ a, a ∈ as ↔ a ∈ as') (has : ∀ a ∈ as, s.validAddr a = true)
    {vs vs' : List τ} (h1 : (forceAll T s as).2 = .ok vs) (h2 : (forceAll T s as').2 = .ok vs')
    (hdet : (forceAll T s as).1.rndPos = s.rndPos) :
    (forceAll T s as).1.ops = (forceAll T s as').1.ops ∧
    (forceAll T s as).1.params = (forceAll T s as').1.params ∧
    (forceAll T s as).1.rndPos = (forceAll T s as').1.rndPos ∧
    ∀ a, (forceAll T s as).1.valueOf? a = (forceAll T s as').1.valueOf? a := by
  have has' : ∀ a ∈ as', s.validAddr a = true := fun a ha => has a ((hmem a).2 ha)
  obtain ⟨l, e, hl⟩ := forceAll_exact T w has h1
  obtain ⟨l', e', hl'⟩ := forceAll_exact T w has' h2
  have hll : ∀ k, k ∈ l ↔ k ∈ l' := by
    intro k
    rw [hl, hl']
    constructor
    · rintro ⟨⟨a, ha, h⟩, r⟩; exact ⟨⟨a, (hmem a).1 ha, h⟩, r⟩
    · rintro ⟨⟨a, ha, h⟩, r⟩; exact ⟨⟨a, (hmem a).2 ha, h⟩, r⟩
  have hdetl := e.det_of_rndPos hdet
  have hops : ∀ k : Nat, (forceAll T s as).1.ops[k]? = (forceAll T s as').1.ops[k]? := fun k =>
    Ext.agree_sub w e e' (fun k hk => (hll k).1 hk) hdetl k
      (Classical.byCases (fun h : k ∈ l => .inl h) (fun h => .inr (fun h' => h ((hll k).2 h'))))
  have hpar : (forceAll T s as).1.params = (forceAll T s as').1.params := e.params.trans e'.params.symm
  refine ⟨List.ext_getElem? hops, hpar, ?_, ?_⟩
  · rw [hdet, e'.rndPos, List.countP_eq_zero.2 fun k hk => by simpa using hdetl k ((hll k).2 hk)]
    rfl
  · intro a
    unfold State.valueOf?
    rw [hops a.oid, hpar]

/-! ### the evaluation order -/

def State.evaluatedB (s : State τ) (k : Nat) : Bool :=
  match s.ops[k]? with
  | some o => o.rets.any (·.value.isSome)
  | none => false

theorem evaluatedB_iff {s : State τ} {k : Nat} : s.evaluatedB k = true ↔ s.evaluated k := by
  unfold State.evaluatedB State.evaluated
  cases s.ops[k]? <;> simp

/-- plan the arguments left to right; `done` = operators planned so far -/
def planArgs (ev : List Nat → Addr → List Nat) : List Nat → List Addr → List Nat
  | _, [] => []
  | done, b :: rest => ev done b ++ planArgs ev (done ++ ev done b) rest

/-- Specification of the evaluation order of `forward a` in state `s`: nothing for a Parameter,
an evaluated operator or one already planned; otherwise the plans of the arguments, left to
right, followed by the operator itself (depth-first post-order, each operator once). -/
def plan (s : State τ) : Nat → List Nat → Addr → List Nat
  | 0, _, _ => []
  | fuel + 1, done, a =>
    if s.isParam a.oid || s.evaluatedB a.oid || done.contains a.oid then []
    else planArgs (plan s fuel) done (s.argList a.oid) ++ [a.oid]

theorem Unevaluated.not_evaluated {s : State τ} {a : Addr} {o : OpInfo τ} {n : NodeInfo τ}
    (u : Unevaluated s a o n) : ¬ s.evaluated a.oid := by
  rintro ⟨o', ho', m, hm, hmv⟩
  rw [u.op] at ho'; cases ho'
  simp [u.none m hm] at hmv

theorem storeValues_log (s : State τ) (k : Nat) (ys : List τ) : (s.storeValues k ys).log = s.log := by
  unfold State.storeValues; split <;> rfl

theorem evalSelf_ok_log {kind : Kind τ} {n : NodeInfo τ} {a : Addr} {s1 s2 : State τ} {xs : List τ} {v : τ}
    (h : evalSelf kind n a s1 xs = (s2, .ok v)) : s2.log = s1.log ++ [a.oid] := by
  unfold evalSelf at h
  split at h
  · cases h
  · cases hy : kind.yield s1 n xs with
    | none => rw [hy] at h; cases h
    | some ys =>
      rw [hy] at h
      simp only [Prod.mk.injEq] at h
      rw [← h.1, State.commit, storeValues_log]; rfl

/-- nothing is planned for a node that shows a value once the operators `d` planned so far are evaluated:
it is a Parameter, was evaluated before, or is among `d` -/
theorem plan_of_value {s0 s : State τ} {d : List Nat} (e : Ext s0 s d) {b : Addr} {v : τ}
    (hval : s.valueOf? b = some v) (f : Nat) : plan s0 (f + 1) d b = [] := by
  have hskip : (s0.isParam b.oid || s0.evaluatedB b.oid || d.contains b.oid) = true := by
    cases hp : s0.isParam b.oid with
    | true => rfl
    | false =>
      rcases (e.evaluated b.oid).1 (evaluated_of_valueOf? hval (by rw [e.isParam]; exact hp)) with h | h
      · simp [evaluatedB_iff.2 h]
      · simp [h]
  rw [plan, if_pos hskip]

/-- for an operator still without values: the plans of its arguments, then the operator itself -/
theorem plan_of_unevaluated {s0 s : State τ} {d : List Nat} (e : Ext s0 s d) {b : Addr} {o : OpInfo τ}
    {n : NodeInfo τ} (u : Unevaluated s b o n) (f : Nat) :
    plan s0 (f + 1) d b = planArgs (plan s0 f) d o.args ++ [b.oid] := by
  have hnev := u.not_evaluated
  have h1 : s0.isParam b.oid = false := by rw [← e.isParam]; exact u.isParam
  have h2 : s0.evaluatedB b.oid = false := by
    cases h : s0.evaluatedB b.oid with
    | false => rfl
    | true => exact absurd ((e.evaluated b.oid).2 (.inl (evaluatedB_iff.1 h))) hnev
  have h3 : d.contains b.oid = false := by
    cases h : d.contains b.oid with
    | false => rfl
    | true => exact absurd ((e.evaluated b.oid).2 (.inr (by simpa using h))) hnev
  have h4 : s0.argList b.oid = o.args := by rw [← e.argList]; simp [State.argList, u.op]
  rw [plan, h1, h2, h3, h4]; rfl

theorem Run.plan {s s' : State τ} {bs : List Addr} {r : Except Err (List τ)} (h : Run s bs s' r) :
    ∀ vs, r = .ok vs → ∀ (s0 : State τ) (d : List Nat) (fuel : Nat), Ext s0 s d →
      (∀ b ∈ bs, b.oid < fuel) → s'.log = s.log ++ planArgs (plan s0 fuel) d bs := by
  induction h with
  | nil => intros; simp [planArgs]
  | @stored s s' b rest r v _ _ hval _ ih =>
    intro vs hr s0 d fuel e hlt
    obtain ⟨f, rfl⟩ : ∃ f, fuel = f + 1 := ⟨fuel - 1, by have := hlt b List.mem_cons_self; omega⟩
    obtain ⟨vs', rfl⟩ : ∃ vs', r = .ok vs' := by cases r with | ok x => exact ⟨x, rfl⟩ | error _ => cases hr
    rw [planArgs, plan_of_value e hval, List.append_nil, List.nil_append]
    exact ih vs' rfl s0 d (f + 1) e (fun b' hb' => hlt b' (List.mem_cons_of_mem _ hb'))
  | argsFail => intro vs hr; cases hr
  | selfFail => intro vs hr; cases hr
  | @eval s s1 s2 s3 b rest o n xs v r u r1 u1 hxs he _ ih1 ih2 =>
    intro vs hr s0 d fuel e hlt
    obtain ⟨f, rfl, hargs⟩ := u.fuel (hlt b List.mem_cons_self)
    obtain ⟨vs', rfl⟩ : ∃ vs', r = .ok vs' := by cases r with | ok x => exact ⟨x, rfl⟩ | error _ => cases hr
    have hplan := plan_of_unevaluated e u f
    have hl1 := ih1 xs rfl s0 d f e hargs
    have hl2 := evalSelf_ok_log he
    -- the state after `b` extends `s0` by what was planned so far
    obtain ⟨l, e12, -⟩ := evalSelf_after_args u r1.spec u1 hxs
    rw [he] at e12
    have e02 : Ext s0 s2 (d ++ Graph.plan s0 (f + 1) d b) := by
      have hl : l = Graph.plan s0 (f + 1) d b := by
        apply List.append_cancel_left (as := s.log)
        rw [← e12.log, hl2, hl1, hplan, List.append_assoc]
      exact hl ▸ e.trans e12
    rw [planArgs, ih2 vs' rfl s0 _ (f + 1) e02 (fun b' hb' => hlt b' (List.mem_cons_of_mem _ hb')),
      hl2, hl1, hplan]
    simp only [List.append_assoc]

theorem forward_plan (T : TOps τ) {s : State τ} (w : WF s) {a : Addr} {v : τ}
    (hok : (forward T s a).2 = .ok v) : (forward T s a).1.log = s.log ++ plan s (a.oid + 1) [] a := by
  by_cases hv : s.validAddr a = true
  · have := (forward_run T w hv).plan [v] (by rw [hok]; rfl) s [] (a.oid + 1) (Ext.refl s) (by simp)
    simpa [planArgs] using this
  · unfold forward at hok; rw [if_neg hv] at hok; cases hok

/-! ### a request succeeds when a deterministic run has evaluated all it needs -/

/-- `s2` is `t` plus the evaluation of some deterministic operators.  Random sources are excluded: their
value depends on the stream position at the moment of evaluation, which a run from `t` does not reproduce. -/
structure DetSub (t s2 : State τ) : Prop where
  params : s2.params = t.params
  ops : ∀ j : Nat, t.ops[j]? = s2.ops[j]? ∨
    ∃ o o2, t.ops[j]? = some o ∧ s2.ops[j]? = some o2 ∧ OpStored o o2 ∧ o.kind.isRnd = false ∧ LocalEq s2 j

theorem Ext.detSub {s s2 : State τ} {l : List Nat} (e : Ext s s2 l) (hdet : ∀ k ∈ l, s.isRnd k = false) :
    DetSub s s2 := by
  refine ⟨e.params, fun j => ?_⟩
  by_cases hj : j ∈ l
  · obtain ⟨o, o2, h1, h2, st⟩ := e.stored j hj
    have := hdet j hj
    simp only [State.isRnd, h1] at this
    exact .inr ⟨o, o2, h1, h2, st, this, e.loc j hj⟩
  · exact .inl (e.same j hj).symm

theorem DetSub.valueOf_mono {t s2 : State τ} (h : DetSub t s2) {b : Addr} {v : τ}
    (hv : t.valueOf? b = some v) : s2.valueOf? b = some v := by
  rcases h.ops b.oid with heq | ⟨o, o2, h1, h2, st, -, -⟩
  · rw [← hv]; unfold State.valueOf?; rw [heq, h.params]
  · unfold State.valueOf? at hv
    simp only [h1] at hv
    cases hk : o.kind with
    | param p => have := st.nonparam; simp [hk, Kind.isParam] at this
    | rnd | op sem =>
      simp only [hk] at hv
      cases hn : o.rets[b.vid]? with
      | none => simp [hn] at hv
      | some n => simp [hn, st.before n (List.mem_of_getElem? hn)] at hv

theorem evalSelf_ok {s1 : State τ} {a : Addr} {o : OpInfo τ} {n : NodeInfo τ} {xs ys : List τ} {v : τ}
    {sem : OpSem τ} (hf : s1.failIn = none) (ho : s1.ops[a.oid]? = some o) (hfw : sem.fwd xs = some ys)
    (hv : ys[a.vid]? = some v) :
    (evalSelf (.op sem) n a s1 xs).2 = .ok v ∧ (evalSelf (.op sem) n a s1 xs).1.failIn = none ∧
    (evalSelf (.op sem) n a s1 xs).1.params = s1.params ∧
    (evalSelf (.op sem) n a s1 xs).1.ops = s1.ops.set a.oid { o with rets := storeRets o.rets ys } := by
  have key : ∀ sB : State τ, sB.ops = s1.ops → sB.params = s1.params → sB.failIn = none →
      ((sB.storeValues a.oid ys).failIn = none ∧ (sB.storeValues a.oid ys).params = s1.params ∧
        (sB.storeValues a.oid ys).ops = s1.ops.set a.oid { o with rets := storeRets o.rets ys }) := by
    intro sB h1 h2 h3
    rw [storeValues_of_some ys (h1 ▸ ho)]
    exact ⟨h3, h2, by rw [h1]⟩
  unfold evalSelf
  rw [if_neg (by simp [hf])]
  simp only [Kind.yield, Kind.isRnd, Bool.false_eq_true, if_false, hfw, hv, State.commit]
  exact ⟨trivial, key _ rfl rfl (by simp [State.tick, hf])⟩

/-- an operator that a deterministic run from the same graph has evaluated is evaluated to the same values -/
theorem evalSelf_det {s1 s2 : State τ} {a : Addr} {o : OpInfo τ} {n : NodeInfo τ} {xs : List τ}
    (u : Unevaluated s1 a o n) (hxs : o.args.mapM s1.valueOf? = some xs) (hf1 : s1.failIn = none)
    (hsub1 : DetSub s1 s2) (hev2 : s2.evaluated a.oid) :
    ∃ v, (evalSelf o.kind n a s1 xs).2 = .ok v ∧ (evalSelf o.kind n a s1 xs).1.failIn = none ∧
      DetSub (evalSelf o.kind n a s1 xs).1 s2 := by
  have kok := u.wf.kind_ok _ o u.op
  rcases hsub1.ops a.oid with heq | ⟨o', o2, h1', h2', st, hnr, hloc⟩
  · obtain ⟨o2, ho2, m, hm, hmv⟩ := hev2
    rw [← heq, u.op] at ho2; cases ho2
    simp [u.none m hm] at hmv
  · rw [u.op] at h1'; cases h1'
    obtain ⟨xs2, hxs2, hsem⟩ := hloc o2 h2'
    have : xs2 = xs := by
      rw [st.args, mapM_mono (fun b _ v hv => hsub1.valueOf_mono hv) hxs] at hxs2
      cases hxs2; rfl
    subst this
    cases hk : o.kind with
    | param p => have := u.nonparam; simp [hk, Kind.isParam] at this
    | rnd => simp [hk, Kind.isRnd] at hnr
    | op sem =>
      obtain ⟨ys, hys, hvals⟩ := hsem sem (st.kind.trans hk)
      rw [hk] at kok; simp only [KindOK] at kok
      have hlen := kok xs2 ys hys
      have hvid' : a.vid < ys.length := Nat.lt_of_lt_of_le (List.getElem?_eq_some_iff.1 u.node).1 hlen
      obtain ⟨e1, e2, e3, e4⟩ := evalSelf_ok (n := n) hf1 u.op hys (List.getElem?_eq_getElem hvid')
      refine ⟨_, e1, e2, ⟨?_, ?_⟩⟩
      · rw [e3]; exact hsub1.params
      · intro j
        rw [e4, List.getElem?_set]
        by_cases hj : a.oid = j
        · subst hj
          left
          have hlt' := (List.getElem?_eq_some_iff.1 u.op).1
          simp only [if_true, hlt', h2', Option.some.injEq]
          exact OpInfo.eq_of_values st.kind.symm st.args.symm ((storeRets_map_size _ _).trans st.sizes.symm)
            ((storeRets_map_grad _ _).trans st.grads.symm) (storeRets_value o.rets ys hlen) hvals
        · simp only [hj, if_false]
          exact hsub1.ops j

/-- with nothing scheduled, a run succeeds when a deterministic run from the same graph has
evaluated everything it needs -/
theorem Run.det {t t' : State τ} {bs : List Addr} {r : Except Err (List τ)} (h : Run t bs t' r) (s2 : State τ) :
    t.failIn = none → DetSub t s2 →
    (∀ b ∈ bs, ∀ k, AncOf t k b.oid → t.isParam k = false → s2.evaluated k) →
    (∃ vs, r = .ok vs) ∧ t'.failIn = none ∧ DetSub t' s2 := by
  induction h with
  | nil => intro hf hsub _; exact ⟨⟨[], rfl⟩, hf, hsub⟩
  | stored _ _ _ _ ih =>
    intro hf hsub hanc
    obtain ⟨⟨vs, rfl⟩, h2⟩ := ih hf hsub (fun b' hb' => hanc b' (List.mem_cons_of_mem _ hb'))
    exact ⟨⟨_, rfl⟩, h2⟩
  | @argsFail s s1 b rest o n e u _ _ ih =>
    intro hf hsub hanc
    obtain ⟨⟨vs, hvs⟩, -⟩ := ih hf hsub
      (fun b' hb' k hk hp => hanc b List.mem_cons_self k (AncOf.of_arg u.op hb' hk) hp)
    cases hvs
  | @selfFail s s1 s2' b rest o n xs e u _ u1 hxs he ih =>
    intro hf hsub hanc
    obtain ⟨-, hf1, hsub1⟩ := ih hf hsub
      (fun b' hb' k hk hp => hanc b List.mem_cons_self k (AncOf.of_arg u.op hb' hk) hp)
    obtain ⟨v, hv, -⟩ := evalSelf_det u1 hxs hf1 hsub1
      (hanc b List.mem_cons_self b.oid (AncOf.refl s b.oid) u.isParam)
    rw [he] at hv; cases hv
  | @eval s s1 s2' s3 b rest o n xs v r u r1 u1 hxs he _ ih1 ih2 =>
    intro hf hsub hanc
    obtain ⟨-, hf1, hsub1⟩ := ih1 hf hsub
      (fun b' hb' k hk hp => hanc b List.mem_cons_self k (AncOf.of_arg u.op hb' hk) hp)
    obtain ⟨v', -, hf2, hsub2⟩ := evalSelf_det u1 hxs hf1 hsub1
      (hanc b List.mem_cons_self b.oid (AncOf.refl s b.oid) u.isParam)
    obtain ⟨l, e12, -⟩ := evalSelf_after_args u r1.spec u1 hxs
    rw [he] at hf2 hsub2 e12
    obtain ⟨⟨vs, rfl⟩, h2⟩ := ih2 hf2 hsub2 (fun b' hb' k hk hp => by
      rw [e12.anc] at hk; rw [e12.isParam] at hp
      exact hanc b' (List.mem_cons_of_mem _ hb') k hk hp)
    exact ⟨⟨_, rfl⟩, h2⟩

/-- if forcing `as` succeeds without a random draw then forcing any nodes among `as`, in any order,
succeeds too (no failure scheduled) -/
theorem forceAll_succeeds (T : TOps τ) {s : State τ} (w : WF s) (hf : s.failIn = none) {as as' : List Addr}
    (hsub : ∀ a ∈ as', a ∈ as) (has : ∀ a ∈ as, s.validAddr a = true)
    {vs : List τ} (h1 : (forceAll T s as).2 = .ok vs) (hdet : (forceAll T s as).1.rndPos = s.rndPos) :
    ∃ vs', (forceAll T s as').2 = .ok vs' := by
  have sp := forceAll_spec T w as has
  obtain ⟨l, p⟩ := sp.post
  have hdone := (sp.ok vs h1).2
  exact ((forceAll_run T w as' (fun a ha => has a (hsub a ha))).det (forceAll T s as).1 hf
    (p.ext.detSub (p.ext.det_of_rndPos hdet)) (fun a ha k hk hp => hdone a (hsub a ha) k hk hp)).1

/-! ### any number of operators added later -/

def Op.isAdd : Op τ → Bool
  | .addOperator _ _ _ => true
  | _ => false

theorem forward_run_adds (T : TOps τ) {s : State τ} (w : WF s) (h : List (Op τ))
    (hadd : ∀ op ∈ h, op.isAdd = true) {a : Addr} (hv : s.validAddr a = true) :
    ∃ os, run T s h = s.appendOps os ∧
      forward T (run T s h) a = ((forward T s a).1.appendOps os, (forward T s a).2) := by
  have hrun : ∀ (h : List (Op τ)) (s : State τ), (∀ op ∈ h, op.isAdd = true) → ∃ os, run T s h = s.appendOps os := by
    intro h
    induction h with
    | nil => intro s _; exact ⟨[], (appendOps_nil s).symm⟩
    | cons op rest ih =>
      intro s hadd
      have hop := hadd op List.mem_cons_self
      cases op with
      | addOperator kind args sizes =>
        obtain ⟨os, hos⟩ := ih (step T s (.addOperator kind args sizes))
          (fun op' h' => hadd op' (List.mem_cons_of_mem _ h'))
        simp only [run, List.foldl_cons] at hos ⊢
        rw [hos]
        by_cases hall : args.all s.validAddr = true
        · refine ⟨freshOp kind args sizes :: os, ?_⟩
          simp only [step, addOperator_eq, if_pos hall]
          simp [State.appendOps, State.push]
        · exact ⟨os, by simp only [step, addOperator_eq, if_neg hall]⟩
      | forward _ => cases hop
      | backward _ => cases hop
      | setParamValue _ _ => cases hop
      | setFail _ => cases hop
  obtain ⟨os, hos⟩ := hrun h s hadd
  exact ⟨os, hos, by rw [hos]; exact forward_appendOps T w os hv⟩

end Primitiv.Graph
