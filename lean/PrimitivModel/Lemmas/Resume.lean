import PrimitivModel.Lemmas.OptimBase
import Mathlib.Algebra.Order.Field.Basic
import Mathlib.Tactic.Ring
import Mathlib.Tactic.FieldSimp
import Mathlib.Algebra.Order.Ring.Rat
/-
For C15 (checkpoint / resume).  Two facts carry it.
Frame: a training step does not read the gradients, so two states with the
same `obs` step to the same state (`trainStep_frame`).  Round trip: on a
`Good` state (everything registered, valid and configured; training keeps
this) `restore ∘ checkpoint` gives back the state up to the gradients
(`restore_checkpoint`), because the configuration maps carry every setting
(`configs_roundtrip`) and `add` finds the loaded statistics in place and
creates none (`configure_configured`).  Interrupted training then follows by
`train_add`: one interruption in `train_restore`, any number in `trainResumed_obs`.

The class hypotheses are those of the statements of Props/C15; no field law is
used below.  The Mathlib imports serve the `example`s over ℚ of Props/C15.
-/
-- `sig`, `Good` and `trainResumed` take the section's classes, so the lemmas that do not mention them take them too
set_option linter.unusedSectionVars false
namespace Primitiv.Opt
open Primitiv.Gen.Opt
section
variable {K : Type} [Field K] [LinearOrder K] [IsStrictOrderedRing K]

theorem base_roundtrip (b b0 : Base K) (extra : List (String × K)) :
    b0.set b.getU (b.getF ++ extra) = b := by
  simp [Base.set, Base.getU, Base.getF, List.lookup]

theorem setConfigs_getConfigs (F : Fns K) (b : Base K) : ∀ (k : Kind) (fields : List K), fields.length = arity k →
    setConfigs k (b.getF ++ getConfigs k fields) (defaults F k) = fields := by
  refine forall_fields ?_ ?_ ?_ ?_ ?_ ?_ <;> intros <;>
    simp [Base.getF, getConfigs, setConfigs, defaults, List.lookup]

theorem configs_roundtrip (F : Fns K) (o : Opt K) (hf : o.fields.length = arity o.kind) :
    loadConfigs o.base.getU (allF o) (fresh F o.kind) = { o with reg := [] } := by
  simp only [loadConfigs, allF, fresh, base_roundtrip, setConfigs_getConfigs F _ _ _ hf]

-- what `configure_parameter` and `update` look at besides numbers
def sig (p : Param K) : Bool × List String := (p.valid, p.stats.map (fun e => e.1))

theorem hasStat_iff (p : Param K) (n : String) : p.hasStat n = true ↔ n ∈ (sig p).2 := by
  simp only [Param.hasStat, sig, List.any_eq_true, List.mem_map, beq_iff_eq]

theorem keys_setStat (n : String) (v : List K) (st : List (String × List K)) :
    (setStat n v st).map (fun e => e.1) = st.map (fun e => e.1) := by
  unfold setStat
  rw [List.map_map]
  apply List.map_congr_left
  intro e _
  simp only [Function.comp]
  split <;> rfl

theorem sig_updateWith (e : K → K → List K → K × List K) (names : List String) (p : Param K) :
    sig (p.updateWith e names) = sig p := by
  unfold Param.updateWith sig
  simp only [Prod.mk.injEq, true_and]
  generalize (List.range names.length) = js
  generalize p.stats = st
  induction js generalizing st with
  | nil => rfl
  | cons j t ih => rw [List.foldl_cons, ih, keys_setStat]

theorem sigs_updateCore (F : Fns K) (s : State K) : (updateCore F s).ps.map sig = s.ps.map sig :=
  map_updateCore sig (fun _ _ => rfl) sig_updateWith F s

theorem sigs_setGrads (gs : List (List K)) (s : State K) : (setGrads gs s).ps.map sig = s.ps.map sig := by
  apply List.ext_getElem?
  intro i
  simp only [setGrads, List.getElem?_map, List.getElem?_mapIdx]
  cases s.ps[i]? <;> rfl

/-- states from which training runs: everything is registered, valid and configured.
`ok` speaks of the list `s.ps.map sig`, not of the parameters: a step that keeps
that list (`sigs_updateCore`, `sigs_setGrads`) then keeps `Good` by rewriting (`Good_congr`). -/
structure Good (k : Kind) (s : State K) : Prop where
  kind : s.o.kind = k
  arity : s.o.fields.length = arity k
  reg : s.o.reg = List.range s.ps.length
  ok : ∀ x ∈ s.ps.map sig, x.1 = true ∧ ∀ n ∈ statNames k, n ∈ x.2

theorem Good_congr {k : Kind} {s s' : State K} (h : Good k s) (hk : s'.o.kind = s.o.kind)
    (hf : s'.o.fields.length = s.o.fields.length) (hr : s'.o.reg = s.o.reg)
    (hs : s'.ps.map sig = s.ps.map sig) : Good k s' := by
  have hl : s'.ps.length = s.ps.length := by simpa using congrArg List.length hs
  exact ⟨hk.trans h.kind, hf.trans h.arity, by rw [hr, hl]; exact h.reg, by rw [hs]; exact h.ok⟩

theorem Good_trainStep (F : Fns K) (G : Nat → List (List K) → List (List K)) (t : Nat) (k : Kind) (s : State K)
    (h : Good k s) : Good k (trainStep F G t s) :=
  Good_congr h rfl rfl rfl ((sigs_updateCore F _).trans (sigs_setGrads _ s))

theorem Good_train (F : Fns K) (G : Nat → List (List K) → List (List K)) (k : Kind) (n t : Nat) (s : State K)
    (h : Good k s) : Good k (train F G t n s) := by
  induction n generalizing t s with
  | zero => exact h
  | succ n ih => exact ih _ _ (Good_trainStep F G t k s h)

theorem map_of_obs {β : Type} (π : Bool × List K × List (String × List K) → β) {s s' : State K}
    (h : obs s = obs s') :
    s.ps.map (fun p => π (p.valid, p.value, p.stats)) = s'.ps.map (fun p => π (p.valid, p.value, p.stats)) := by
  have hp := congrArg (fun (x : Opt K × List (Bool × List K × List (String × List K))) => x.2.map π) h
  simp only [obs, List.map_map] at hp
  exact hp

theorem setGrads_frame (gs : List (List K)) (s s' : State K) (h : obs s = obs s') :
    setGrads gs s = setGrads gs s' := by
  have ho : s.o = s'.o := congrArg Prod.fst h
  simp only [setGrads, ho, State.mk.injEq, true_and]
  apply List.ext_getElem?
  intro i
  -- rebuild entry `i` from what `obs` keeps of it and the new gradient
  have hi := congrArg (fun (x : Opt K × List (Bool × List K × List (String × List K))) =>
    (x.2[i]?).map (fun e => (⟨e.1, e.2.1, gs.getD i [], e.2.2⟩ : Param K))) h
  simp only [obs, List.getElem?_map, Option.map_map] at hi
  simp only [List.getElem?_mapIdx]
  exact hi

theorem values_frame (s s' : State K) (h : obs s = obs s') : values s = values s' :=
  map_of_obs (fun e => e.2.1) h

theorem trainStep_frame (F : Fns K) (G : Nat → List (List K) → List (List K)) (t : Nat) (s s' : State K)
    (h : obs s = obs s') : trainStep F G t s = trainStep F G t s' := by
  unfold trainStep
  rw [values_frame s s' h, setGrads_frame _ s s' h]

theorem train_frame (F : Fns K) (G : Nat → List (List K) → List (List K)) (n t : Nat) (s s' : State K)
    (h : obs s = obs s') : obs (train F G t n s) = obs (train F G t n s') := by
  induction n generalizing t s s' with
  | zero => exact h
  | succ n ih =>
    simp only [train]
    rw [trainStep_frame F G t s s' h]

theorem train_add (F : Fns K) (G : Nat → List (List K) → List (List K)) (k n t : Nat) (s : State K) :
    train F G t (k + n) s = train F G (t + k) n (train F G t k s) := by
  induction k generalizing t s with
  | zero => simp [train]
  | succ k ih =>
    rw [Nat.add_right_comm, train, train, ih]
    congr 1
    omega

theorem configure_configured (k : Kind) (p : Param K) (hv : p.valid = true)
    (hs : ∀ n ∈ statNames k, p.hasStat n = true) : configure k p = (p, true) := by
  rw [configure_valid k p hv]
  have : (Spec.statNames k).filter (fun n => !p.hasStat n) = [] := by
    rw [List.filter_eq_nil_iff]
    intro n hn
    rw [← statNames_eq_spec] at hn
    simp [hs n hn]
  rw [this]
  simp

theorem addAll_succ (s : State K) (n : Nat) : addAll s (n + 1) = (add (addAll s n) n).1 := by
  unfold addAll
  rw [List.range_succ, List.foldl_append]
  rfl

theorem configure_valid_ok (k : Kind) (p : Param K) (hv : p.valid = true) :
    (configure k p).2 = true ∧ (sig (configure k p).1).1 = true ∧ ∀ n ∈ statNames k, n ∈ (sig (configure k p).1).2 := by
  rw [configure_valid k p hv]
  refine ⟨rfl, hv, fun n hn => ?_⟩
  rw [statNames_eq_spec] at hn
  simp only [sig, List.map_append, List.map_map, List.mem_append, List.mem_map, List.mem_filter]
  by_cases h : p.hasStat n = true
  · left
    have := (hasStat_iff p n).mp h
    simpa [sig] using this
  · right
    exact ⟨n, ⟨hn, by simpa using h⟩, rfl⟩

theorem addAll_fresh (k : Kind) (fields : List K) (b : Base K) (ps : List (Param K))
    (hv : ∀ p ∈ ps, p.valid = true) (n : Nat) (hn : n ≤ ps.length) :
    addAll ⟨⟨k, fields, b, []⟩, ps⟩ n =
      ⟨⟨k, fields, b, List.range n⟩, ps.mapIdx (fun i p => if i < n then (configure k p).1 else p)⟩ := by
  induction n with
  | zero =>
    simp only [addAll, List.range_zero, List.foldl_nil, Nat.not_lt_zero, if_false]
    congr 1
    apply List.ext_getElem?
    intro i
    simp
  | succ n ih =>
    rw [addAll_succ, ih (Nat.le_of_succ_le hn)]
    have hlt : n < ps.length := hn
    have hp : (ps.mapIdx (fun i p => if i < n then (configure k p).1 else p))[n]? = some ps[n] := by
      simp [List.getElem?_mapIdx, List.getElem?_eq_getElem hlt]
    have hc := configure_valid_ok k ps[n] (hv _ (List.getElem_mem hlt))
    unfold add
    simp only [List.mem_range, Nat.lt_irrefl, if_false, hp, hc.1, if_true, List.range_succ]
    congr 1
    apply List.ext_getElem?
    intro i
    simp only [List.getElem?_set, List.getElem?_mapIdx, List.length_mapIdx]
    by_cases hi : n = i
    · subst hi
      simp [hlt]
    · simp [hi, show i < n + 1 ↔ i < n by omega]

theorem addAll_all (k : Kind) (fields : List K) (b : Base K) (ps : List (Param K))
    (hv : ∀ p ∈ ps, p.valid = true) (n : Nat) (hn : n = ps.length) :
    addAll ⟨⟨k, fields, b, []⟩, ps⟩ n = ⟨⟨k, fields, b, List.range n⟩, ps.map (fun p => (configure k p).1)⟩ := by
  rw [addAll_fresh k fields b ps hv n hn.le]
  congr 1
  apply List.ext_getElem?
  intro i
  rw [List.getElem?_mapIdx, List.getElem?_map]
  cases hp : ps[i]? with
  | none => rfl
  | some p => simp [hn, (List.getElem?_eq_some_iff.mp hp).1]

theorem restore_checkpoint (F : Fns K) (k : Kind) (s : State K) (h : Good k s) :
    obs (restore F k (checkpoint s)) = obs s := by
  obtain ⟨⟨kind, fields, base, reg⟩, ps⟩ := s
  obtain ⟨hk, ha, hr, hok⟩ := h
  simp only at hk ha hr hok
  subst hk hr
  have hcfg := configs_roundtrip F (⟨kind, fields, base, List.range ps.length⟩ : Opt K) ha
  simp only at hcfg
  unfold restore checkpoint
  simp only [hcfg, List.length_map]
  rw [addAll_all kind fields base _ (by simp [loadParam]) _ (by simp)]
  simp only [obs, Prod.mk.injEq, List.map_map, true_and]
  apply List.map_congr_left
  intro p hp
  -- the restored parameter has the statistics `configure_parameter` would create, so it is left alone
  obtain ⟨hv, hs⟩ := hok (sig p) (List.mem_map_of_mem hp)
  simp only [Function.comp, configure_configured kind (loadParam (p.value, p.stats)) rfl
    (fun n hn => (hasStat_iff _ n).mpr (hs n hn))]
  simp only [sig] at hv
  simp [loadParam, hv]

theorem init_good (k : Kind) (fields : List K) (b : Base K) (vals : List (List K)) (hf : fields.length = arity k) :
    Good k (initState k fields b vals) := by
  unfold initState
  rw [addAll_all k fields b _ (by simp) _ (by simp)]
  refine ⟨rfl, hf, by simp, ?_⟩
  intro x hx
  simp only [List.map_map, List.mem_map] at hx
  obtain ⟨v, _, rfl⟩ := hx
  exact (configure_valid_ok k _ rfl).2

theorem Good_of_obs (k : Kind) (s s' : State K) (h : obs s = obs s') (g : Good k s) : Good k s' := by
  have ho : s'.o = s.o := (congrArg Prod.fst h).symm
  exact Good_congr g (by rw [ho]) (by rw [ho]) (by rw [ho])
    (map_of_obs (fun e => (e.1, e.2.2.map (fun y => y.1))) h).symm

theorem checkpoint_of_obs (s s' : State K) (h : obs s = obs s') : checkpoint s = checkpoint s' := by
  have ho : s.o = s'.o := congrArg Prod.fst h
  have hp := map_of_obs (fun e => (e.2.1, e.2.2)) h
  simp only [checkpoint, ho]
  congr 1

theorem train_restore (F : Fns K) (G : Nat → List (List K) → List (List K)) (k : Kind) (s : State K)
    (h : Good k s) (t m n : Nat) :
    obs (train F G t (m + n) s) = obs (train F G (t + m) n (restore F k (checkpoint (train F G t m s)))) := by
  rw [train_add]
  exact (train_frame F G n (t + m) _ _ (restore_checkpoint F k _ (Good_train F G k m t s h))).symm

/-- training in segments of lengths `ns`; after each the process is stopped and started
again: a checkpoint into a file and a restore into fresh objects -/
def trainResumed (F : Fns K) (G : Nat → List (List K) → List (List K)) (k : Kind) : Nat → List Nat → State K → State K
  | _, [], s => s
  | t, n :: ns, s => trainResumed F G k (t + n) ns (restore F k (checkpoint (train F G t n s)))

theorem trainResumed_obs (F : Fns K) (G : Nat → List (List K) → List (List K)) (k : Kind) (ns : List Nat) (t : Nat)
    (s : State K) (h : Good k s) :
    obs (trainResumed F G k t ns s) = obs (train F G t ns.sum s) ∧ Good k (trainResumed F G k t ns s) := by
  induction ns generalizing t s with
  | nil => exact ⟨rfl, h⟩
  | cons n ns ih =>
    have hg : Good k (train F G t n s) := Good_train F G k n t s h
    obtain ⟨h1, h2⟩ := ih (t + n) _ (Good_of_obs k _ _ (restore_checkpoint F k _ hg).symm hg)
    exact ⟨h1.trans (train_restore F G k s h t n ns.sum).symm, h2⟩

end
end Primitiv.Opt
