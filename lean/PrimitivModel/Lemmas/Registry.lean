import PrimitivModel.Model.Registry
import PrimitivModel.Spec.Registry
/-
Parameters and submodels are treated alike wherever the model treats them
alike: `ResolvesP`/`ResolvesM` and `get_parameter`/`get_submodel` are instances
of `Resolves`/`Reg.lookup` over the container chosen, the consistency of one
model's containers is symmetric in the two kinds (`MState.swap`), and both
`add`s (and `Optimizer::add`) have the shape `Out.Decides`.
The traversals (`has_submodel`, `get_all_parameters`) are handled by one
induction, `Reg.inv.fuel_induction`: under the invariant, what passes from the
direct submodels to a model at the cost of one unit of fuel holds everywhere
with the fuel the callers pass; returning and returning the right value are
proved together.  `get_all_parameters` inserts a list of entries into an empty
map (`insertAll`), so that order and membership are facts about that list.
Core Lean only.
-/
namespace Primitiv.Registry
open Std

theorem Res.eq_error_iff {α} {a : Res α} (h : a ≠ .crash) : a = .error ↔ ¬ ∃ x, a = .ok x := by
  cases a <;> simp at h ⊢

/-- The shape of an `add`: `A`, the object is registered already (a no-op); otherwise `B`, it is rejected. -/
def Out.Decides {σ} (o : Out σ) (A B : Prop) (s e s' : σ) : Prop :=
  (A ∧ o = .ok s) ∨ (¬ A ∧ B ∧ o = .error e) ∨ (¬ A ∧ ¬ B ∧ o = .ok s')

namespace Out.Decides
variable {σ : Type} {o : Out σ} {A B : Prop} {s e s' t : σ}

theorem ne_crash (h : o.Decides A B s e s') : o ≠ .crash := by
  rcases h with ⟨_, rfl⟩ | ⟨_, _, rfl⟩ | ⟨_, _, rfl⟩ <;> nofun

theorem of_error (h : o.Decides A B s e s') (ht : o = .error t) : t = e ∧ ¬ A ∧ B := by
  rcases h with ⟨_, rfl⟩ | ⟨hA, hB, rfl⟩ | ⟨_, _, rfl⟩ <;> cases ht
  exact ⟨rfl, hA, hB⟩

theorem of_ok (h : o.Decides A B s e s') (ht : o = .ok t) : (A ∧ t = s) ∨ (¬ A ∧ ¬ B ∧ t = s') := by
  rcases h with ⟨hA, rfl⟩ | ⟨_, _, rfl⟩ | ⟨hA, hB, rfl⟩ <;> cases ht
  · exact .inl ⟨hA, rfl⟩
  · exact .inr ⟨hA, hB, rfl⟩

theorem decision (h : o.Decides A B s e s') : (o = .error e ↔ ¬ A ∧ B) ∧ ((∃ t, o = .ok t) ↔ A ∨ ¬ B) := by
  rcases h with ⟨hA, rfl⟩ | ⟨hA, hB, rfl⟩ | ⟨hA, hB, rfl⟩ <;> simp [*]

theorem congr {B' : Prop} (h : o.Decides A B s e s') (hB : B ↔ B') : o.Decides A B' s e s' := by
  unfold Decides at h ⊢; rwa [← hB]

end Out.Decides

section containers
variable {κ ν : Type} [DecidableEq κ]

theorem kvFind_cons (e : κ × ν) (l : List (κ × ν)) (k : κ) :
    kvFind (e :: l) k = if e.1 = k then some e.2 else kvFind l k := rfl

theorem kvFind_eq_none_iff {l : List (κ × ν)} {k : κ} : kvFind l k = none ↔ k ∉ l.map (·.1) := by
  induction l with
  | nil => simp [kvFind]
  | cons e rest ih => rw [kvFind_cons]; split <;> simp_all [eq_comm]

theorem kvFind_eq_some_iff {l : List (κ × ν)} (hn : (l.map (·.1)).Nodup) {k : κ} {v : ν} :
    kvFind l k = some v ↔ (k, v) ∈ l := by
  induction l with
  | nil => simp [kvFind]
  | cons e rest ih =>
    rw [List.map_cons, List.nodup_cons] at hn
    rw [kvFind_cons, List.mem_cons, ← ih hn.2]
    split
    · subst k; simp [kvFind_eq_none_iff.2 hn.1, Prod.ext_iff, eq_comm]
    · simp [Prod.ext_iff, Ne.symm ‹¬ e.1 = k›]

theorem mem_keys_iff_kvFind {l : List (κ × ν)} {k : κ} : k ∈ l.map (·.1) ↔ ∃ v, kvFind l k = some v := by
  rw [← Option.ne_none_iff_exists', ne_eq, kvFind_eq_none_iff, Decidable.not_not]

theorem mem_vals_iff_kvFind {l : List (κ × ν)} (hn : (l.map (·.1)).Nodup) {v : ν} :
    v ∈ l.map (·.2) ↔ ∃ k, kvFind l k = some v := by
  simp [kvFind_eq_some_iff hn]

theorem kvEmplace_of_none {l : List (κ × ν)} {k : κ} {v : ν} (h : kvFind l k = none) :
    kvEmplace l k v = l ++ [(k, v)] := by simp [kvEmplace, h]

theorem setEmplace_of_not_mem {α} [DecidableEq α] {s : List α} {a : α} (h : a ∉ s) : setEmplace s a = s ++ [a] :=
  if_neg h

theorem nodup_snoc {α} {l : List α} {a : α} : (l ++ [a]).Nodup ↔ l.Nodup ∧ a ∉ l :=
  (List.perm_append_singleton a l).nodup_iff.trans (List.nodup_cons.trans and_comm)

theorem countP_lt_countP {α} [BEq α] [LawfulBEq α] {p q : α → Bool} {l : List α} (h : ∀ x ∈ l, p x → q x) {a : α}
    (ha : a ∈ l) (hq : q a) (hp : ¬ p a) : l.countP p < l.countP q := by
  have hperm := List.perm_cons_erase ha
  rw [hperm.countP_eq, hperm.countP_eq, List.countP_cons_of_neg hp, List.countP_cons_of_pos hq]
  exact Nat.lt_succ_of_le (List.countP_mono_left fun x hx => h x (List.mem_of_mem_erase hx))

end containers

section mapEmplace
variable {κ ν : Type} [Ord κ]

theorem mem_mapEmplace {l : List (κ × ν)} {k : κ} {v : ν} {x : κ × ν} (h : x ∈ mapEmplace l k v) : x ∈ l ∨ x = (k, v) := by
  fun_induction mapEmplace l k v with
  | case1 => exact .inr (List.mem_singleton.1 h)
  | case2 => exact (List.mem_cons.1 h).symm
  | case3 => exact .inl h
  | case4 _ _ _ _ _ _ ih =>
    exact (List.mem_cons.1 h).elim (fun h => .inl (h ▸ List.mem_cons_self)) fun h => (ih h).imp_left (List.mem_cons_of_mem _)

/-- `emplace` adds the entry unless the key is taken; so it adds it when the key can only be taken by the same value -/
theorem mem_mapEmplace_iff [LawfulEqOrd κ] {l : List (κ × ν)} {k : κ} {v : ν} (hl : ∀ v', (k, v') ∈ l → v' = v)
    {x : κ × ν} : x ∈ mapEmplace l k v ↔ x ∈ l ∨ x = (k, v) := by
  fun_induction mapEmplace l k v with
  | case1 => simp
  | case2 => simp [or_comm]
  | case3 k' v' _ _ _ h =>
    cases LawfulEqOrd.eq_of_compare h
    cases hl v' List.mem_cons_self
    exact ⟨.inl, fun h => h.elim id (· ▸ List.mem_cons_self)⟩
  | case4 _ _ _ _ _ _ ih =>
    simp only [List.mem_cons, ih fun w hw => hl w (List.mem_cons_of_mem _ hw), or_assoc]

/-- strictly increasing keys: the representation invariant of `std::map` -/
def Sorted (l : List (κ × ν)) : Prop := l.Pairwise (fun a b => compare a.1 b.1 = .lt)

theorem sorted_mapEmplace [TransOrd κ] {l : List (κ × ν)} (hs : Sorted l) (k : κ) (v : ν) : Sorted (mapEmplace l k v) := by
  fun_induction mapEmplace l k v with
  | case1 => simp [Sorted]
  | case2 _ _ _ _ _ h =>
    refine List.pairwise_cons.2 ⟨fun a ha => ?_, hs⟩
    rcases List.mem_cons.1 ha with rfl | ha
    · exact h
    · exact TransCmp.lt_trans h ((List.pairwise_cons.1 hs).1 a ha)
  | case3 => exact hs
  | case4 _ _ _ _ _ h ih =>
    obtain ⟨hd, hs⟩ := List.pairwise_cons.1 hs
    refine List.pairwise_cons.2 ⟨fun a ha => ?_, ih hs⟩
    rcases mem_mapEmplace ha with ha | rfl
    · exact hd a ha
    · exact OrientedCmp.gt_iff_lt.1 h

end mapEmplace

section insertAll
variable {κ ν : Type} [Ord κ]

/-- `emplace` the entries of a list one after the other: both loops of `get_all_parameters` do this -/
def insertAll (acc L : List (κ × ν)) : List (κ × ν) := L.foldl (fun a e => mapEmplace a e.1 e.2) acc

theorem insertAll_sorted [TransOrd κ] {acc L : List (κ × ν)} (h : Sorted acc) : Sorted (insertAll acc L) := by
  induction L generalizing acc with
  | nil => exact h
  | cons e L ih => exact ih (sorted_mapEmplace h _ _)

/-- Every entry is added: no `emplace` meets a key taken by another value, the accumulator and the entries to
come all lying in a functional relation `P`. -/
theorem mem_insertAll [LawfulEqOrd κ] {P : κ → ν → Prop} (hf : ∀ {k v v'}, P k v → P k v' → v = v')
    {acc L : List (κ × ν)} (h : ∀ x ∈ acc ++ L, P x.1 x.2) {x : κ × ν} : x ∈ insertAll acc L ↔ x ∈ acc ++ L := by
  induction L generalizing acc with
  | nil => simp [insertAll]
  | cons e L ih =>
    have hmem {y} : y ∈ mapEmplace acc e.1 e.2 ↔ y ∈ acc ++ [e] := by
      rw [mem_mapEmplace_iff fun v' hv' => hf (h _ (List.mem_append_left _ hv')) (h e (by simp)), List.mem_append,
        List.mem_singleton]
    have happ {y} : y ∈ mapEmplace acc e.1 e.2 ++ L ↔ y ∈ acc ++ e :: L := by
      simp only [List.mem_append, hmem, List.mem_cons, List.not_mem_nil, or_false, or_assoc]
    exact (ih fun y hy => h y (happ.1 hy)).trans happ

end insertAll

namespace MState

/-- The consistency of the containers does not tell parameters from submodels (both ids are numbers). -/
def swap (st : MState) : MState :=
  { paramKv := st.subKv, subKv := st.paramKv, nameSet := st.nameSet, paramSet := st.subSet, subSet := st.paramSet }

theorem wf.swap {st : MState} (h : st.wf) : st.swap.wf :=
  ⟨h.skeys_nodup, h.pkeys_nodup, h.svals_nodup, h.pvals_nodup, h.names_nodup, h.sset_nodup, h.pset_nodup,
   fun n => (h.names_iff n).trans or_comm, fun n hs hp => h.names_disjoint n hp hs, h.sset_iff, h.pset_iff⟩

/-- the state an accepted `add(name, param)` leaves: its three closing `emplace`s -/
def withParam (st : MState) (n : Name) (p : PId) : MState :=
  { st with nameSet := setEmplace st.nameSet n, paramSet := setEmplace st.paramSet p, paramKv := kvEmplace st.paramKv n p }

def withSub (st : MState) (n : Name) (c : MId) : MState :=
  { st with nameSet := setEmplace st.nameSet n, subSet := setEmplace st.subSet c, subKv := kvEmplace st.subKv n c }

theorem wf_default : ({} : MState).wf := by
  constructor <;> simp

theorem wf.fresh {st : MState} (h : st.wf) {n : Name} (hn : n ∉ st.nameSet) :
    n ∉ st.paramKv.map (·.1) ∧ n ∉ st.subKv.map (·.1) := not_or.1 (mt (h.names_iff n).2 hn)

theorem withParam_eq {st : MState} (h : st.wf) {n : Name} {p : PId} (hn : n ∉ st.nameSet) (hp : p ∉ st.paramSet) :
    st.withParam n p =
      { st with nameSet := st.nameSet ++ [n], paramSet := st.paramSet ++ [p], paramKv := st.paramKv ++ [(n, p)] } := by
  rw [withParam, setEmplace_of_not_mem hn, setEmplace_of_not_mem hp, kvEmplace_of_none (kvFind_eq_none_iff.2 (h.fresh hn).1)]

theorem wf_withParam {st : MState} (h : st.wf) {n : Name} {p : PId} (hn : n ∉ st.nameSet) (hp : p ∉ st.paramSet) :
    (st.withParam n p).wf := by
  have hk := h.fresh hn
  have hv : p ∉ st.paramKv.map (·.2) := mt (h.pset_iff p).2 hp
  rw [withParam_eq h hn hp]
  constructor <;> simp only [List.map_append, List.map_cons, List.map_nil, nodup_snoc, List.mem_append, List.mem_singleton]
  · exact ⟨h.pkeys_nodup, hk.1⟩
  · exact h.skeys_nodup
  · exact ⟨h.pvals_nodup, hv⟩
  · exact h.svals_nodup
  · exact ⟨h.names_nodup, hn⟩
  · exact ⟨h.pset_nodup, hp⟩
  · exact h.sset_nodup
  · exact fun x => by rw [h.names_iff x, or_right_comm]
  · exact fun x hx => hx.elim (h.names_disjoint x) (· ▸ hk.2)
  · exact fun x => or_congr_left (h.pset_iff x)
  · exact h.sset_iff

/-- `st.withSub n c` is `(st.swap.withParam n c).swap` by definition. -/
theorem wf_withSub {st : MState} (h : st.wf) {n : Name} {c : MId} (hn : n ∉ st.nameSet) (hc : c ∉ st.subSet) :
    (st.withSub n c).wf := (wf_withParam h.swap hn hc).swap

theorem find_withParam {st : MState} (h : st.wf) {n : Name} {p : PId} (hn : n ∉ st.nameSet) (hp : p ∉ st.paramSet) :
    kvFind (st.withParam n p).paramKv n = some p :=
  (kvFind_eq_some_iff (wf_withParam h hn hp).pkeys_nodup).2 <| by
    rw [withParam_eq h hn hp]; exact List.mem_append_right _ (List.mem_singleton_self _)

theorem find_withSub {st : MState} (h : st.wf) {n : Name} {c : MId} (hn : n ∉ st.nameSet) (hc : c ∉ st.subSet) :
    kvFind (st.withSub n c).subKv n = some c := find_withParam h.swap hn hc

end MState

/-- `ResolvesP` and `ResolvesM` are one relation, `kv` selecting the container the last name is looked up in
(parameter and model ids are both numbers). -/
inductive Resolves (r : Reg) (kv : MState → List (Name × Nat)) : MId → Path → Nat → Prop
  | here {m n x} : kvFind (kv (r.get m)) n = some x → Resolves r kv m [n] x
  | sub {m n c path x} : kvFind (r.get m).subKv n = some c → Resolves r kv c path x → Resolves r kv m (n :: path) x

theorem resolvesP_iff {r : Reg} {m : MId} {path : Path} {p : PId} :
    ResolvesP r m path p ↔ Resolves r (·.paramKv) m path p := by
  constructor <;> intro h <;> induction h with
  | here h => exact .here h
  | sub h _ ih => exact .sub h ih

theorem resolvesM_iff {r : Reg} {m : MId} {path : Path} {c : MId} :
    ResolvesM r m path c ↔ Resolves r (·.subKv) m path c := by
  constructor <;> intro h <;> induction h with
  | here h => exact .here h
  | sub h _ ih => exact .sub h ih

section lookup
variable {r : Reg} {kv : MState → List (Name × Nat)} {m : MId} {n n' : Name} {rest : List Name} {x : Nat}

theorem resolves_single : Resolves r kv m [n] x ↔ kvFind (kv (r.get m)) n = some x :=
  ⟨fun h => match h with | .here h => h, .here⟩

theorem resolves_cons_cons :
    Resolves r kv m (n :: n' :: rest) x ↔ ∃ c, kvFind (r.get m).subKv n = some c ∧ Resolves r kv c (n' :: rest) x :=
  ⟨fun h => match h with | .sub h h' => ⟨_, h, h'⟩, fun ⟨_, h, h'⟩ => .sub h h'⟩

/-- `get_parameter` and `get_submodel` are one function of the container:
`r.getParameter = r.lookup (·.paramKv)` and `r.getSubmodel = r.lookup (·.subKv)` hold by `rfl`. -/
def Reg.lookup (r : Reg) (kv : MState → List (Name × Nat)) (m : MId) (names : List Name) : Res Nat :=
  match r.getSemiterminal m names with
  | .crash => .crash
  | .error => .error
  | .ok st =>
    match names.getLast? with
    | none => .crash
    | some last =>
      match kvFind (kv (r.get st)) last with
      | none => .error
      | some x => .ok x

theorem Reg.lookup_single : r.lookup kv m [n] = match kvFind (kv (r.get m)) n with | none => .error | some x => .ok x := rfl

theorem Reg.lookup_cons_cons : r.lookup kv m (n :: n' :: rest) =
    match kvFind (r.get m).subKv n with | none => .error | some c => r.lookup kv c (n' :: rest) := by
  simp only [lookup, getSemiterminal, List.dropLast_cons_cons, walk, List.getLast?_cons_cons]
  cases kvFind (r.get m).subKv n <;> simp

theorem Reg.lookup_ok_iff {path : Path} : r.lookup kv m path = .ok x ↔ Resolves r kv m path x := by
  induction path generalizing m with
  | nil => exact ⟨nofun, nofun⟩
  | cons n rest ih =>
    cases rest with
    | nil => rw [lookup_single, resolves_single]; cases kvFind (kv (r.get m)) n <;> simp
    | cons n' rest => rw [lookup_cons_cons, resolves_cons_cons]; cases kvFind (r.get m).subKv n <;> simp [ih]

theorem Reg.lookup_ne_crash {path : Path} : r.lookup kv m path ≠ .crash := by
  induction path generalizing m with
  | nil => nofun
  | cons n rest ih =>
    cases rest with
    | nil => rw [lookup_single]; split <;> nofun
    | cons n' rest => rw [lookup_cons_cons]; split; nofun; exact ih

theorem Reg.lookup_error_iff {path : Path} : r.lookup kv m path = .error ↔ ¬ ∃ x, Resolves r kv m path x := by
  simp only [← lookup_ok_iff]; exact Res.eq_error_iff lookup_ne_crash

end lookup

theorem resolvesP_single {r : Reg} {m : MId} {n : Name} {p : PId} :
    ResolvesP r m [n] p ↔ kvFind (r.get m).paramKv n = some p := resolvesP_iff.trans resolves_single

theorem resolvesM_single {r : Reg} {m : MId} {n : Name} {c : MId} :
    ResolvesM r m [n] c ↔ kvFind (r.get m).subKv n = some c := resolvesM_iff.trans resolves_single

theorem nameUsed_iff {r : Reg} {m : MId} (hwf : (r.get m).wf) {n : Name} : NameUsed r m n ↔ n ∈ (r.get m).nameSet := by
  simp only [NameUsed, resolvesP_single, resolvesM_single, hwf.names_iff n, mem_keys_iff_kvFind]

theorem paramRegistered_iff {r : Reg} {m : MId} (hwf : (r.get m).wf) {p : PId} : (∃ n', ResolvesP r m [n'] p) ↔ p ∈ (r.get m).paramSet := by
  simp only [resolvesP_single, hwf.pset_iff p, mem_vals_iff_kvFind hwf.pkeys_nodup]

theorem subRegistered_iff {r : Reg} {m : MId} (hwf : (r.get m).wf) {c : MId} : (∃ n', ResolvesM r m [n'] c) ↔ c ∈ (r.get m).subSet := by
  simp only [resolvesM_single, hwf.sset_iff c, mem_vals_iff_kvFind hwf.skeys_nodup]

theorem Resolves.functional {r : Reg} {kv : MState → List (Name × Nat)} {m : MId} {path : Path} {x x' : Nat}
    (h : Resolves r kv m path x) (h' : Resolves r kv m path x') : x = x' :=
  Res.ok.inj ((Reg.lookup_ok_iff.2 h).symm.trans (Reg.lookup_ok_iff.2 h'))

theorem ResolvesP.functional {r : Reg} {m : MId} {path : Path} {p p' : PId}
    (h : ResolvesP r m path p) (h' : ResolvesP r m path p') : p = p' :=
  (resolvesP_iff.1 h).functional (resolvesP_iff.1 h')

theorem ResolvesM.functional {r : Reg} {m : MId} {path : Path} {c c' : MId}
    (h : ResolvesM r m path c) (h' : ResolvesM r m path c') : c = c' :=
  (resolvesM_iff.1 h).functional (resolvesM_iff.1 h')

namespace Reg

@[simp] theorem size_put (r : Reg) (m : MId) (st : MState) : (r.put m st).size = r.size := by
  simp [Reg.put, Reg.size]

theorem get_put {r : Reg} {m : MId} (hm : m < r.size) (st : MState) (x : MId) :
    (r.put m st).get x = if x = m then st else r.get x := by
  simp only [Reg.get, Reg.put, List.getD_eq_getElem?_getD, List.getElem?_set, show m < r.models.length from hm, if_true,
    eq_comm (a := m)]
  split <;> rfl

theorem get_of_size_le {r : Reg} {m : MId} (h : r.size ≤ m) : r.get m = {} := by
  simp only [Reg.get, List.getD_eq_getElem?_getD, List.getElem?_eq_none (show r.models.length ≤ m from h), Option.getD_none]

theorem get_newModel (r : Reg) (m : MId) : r.newModel.get m = r.get m := by
  simp only [Reg.get, Reg.newModel, List.getD_eq_getElem?_getD, List.getElem?_append]
  split
  · rfl
  · rw [List.getElem?_eq_none (l := r.models) (Nat.le_of_not_lt ‹_›)]; cases m - r.models.length <;> rfl

theorem child_lt_size {r : Reg} {m c : MId} (h : r.child m c) : m < r.size :=
  Nat.lt_of_not_le fun hle => by simp [child, get_of_size_le hle] at h

theorem getParameter_ok_iff (r : Reg) (m : MId) (path : Path) (p : PId) :
    getParameter r m path = .ok p ↔ ResolvesP r m path p := lookup_ok_iff.trans resolvesP_iff.symm

theorem Reach.iff_child {r : Reg} {a t : MId} : r.Reach a t ↔ ∃ b, r.child a b ∧ (b = t ∨ r.Reach b t) :=
  ⟨fun h => match h with | .single h => ⟨_, h, .inl rfl⟩ | .step h h' => ⟨_, h, .inr h'⟩,
   fun ⟨_, h, h'⟩ => h'.elim (· ▸ .single h) (.step h)⟩

theorem Reach.trans {r : Reg} {a b c : MId} (h1 : r.Reach a b) (h2 : r.Reach b c) : r.Reach a c := by
  induction h1 with
  | single h => exact .step h h2
  | step h _ ih => exact .step h (ih h2)

theorem Reach.rank_lt {r : Reg} {rk : MId → Nat} (hrk : ∀ m c, r.child m c → rk c < rk m) {a b : MId}
    (h : r.Reach a b) : rk b < rk a := by
  induction h with
  | single h => exact hrk _ _ h
  | step h _ ih => exact Nat.lt_trans ih (hrk _ _ h)

theorem not_reach_self {r : Reg} (hi : r.inv) (m : MId) : ¬ r.Reach m m :=
  hi.acyclic.elim fun _ hrk h => Nat.lt_irrefl _ (h.rank_lt hrk)

/-- The number of models of smaller rank is itself a rank, and it stays below `r.size`, the fuel the callers
pass. -/
theorem inv.fuel_induction {r : Reg} (hi : r.inv) {G : Nat → MId → Prop}
    (hstep : ∀ f m, (∀ c, r.child m c → G f c) → G (f + 1) m) (h0 : 0 < r.size) (m : MId) : G r.size m := by
  obtain ⟨rk, hrk⟩ := hi.acyclic
  let below (m : MId) := (List.range r.size).countP fun x => rk x < rk m
  have key : ∀ f m, m < r.size → below m < f → G f m := by
    intro f
    induction f with
    | zero => exact fun _ _ h => absurd h (Nat.not_lt_zero _)
    | succ f ih =>
      refine fun m _ hb => hstep f m fun c hc => ih c (hi.closed m c hc) (Nat.lt_of_lt_of_le ?_ (Nat.le_of_lt_succ hb))
      have := hrk m c hc
      exact countP_lt_countP (a := c) (by simp; omega) (List.mem_range.2 (hi.closed m c hc)) (by simpa) (by simp)
  by_cases hm : m < r.size
  · have := countP_lt_countP (p := fun x => decide (rk x < rk m)) (q := fun _ => true) (fun _ _ _ => rfl)
      (List.mem_range.2 hm) rfl (by simp)
    exact key _ m hm (by simpa using this)
  · -- an id that is not a model has no submodels
    obtain ⟨k, hk⟩ : ∃ k, r.size = k + 1 := ⟨r.size - 1, by omega⟩
    exact hk ▸ hstep k m fun c hc => absurd (child_lt_size hc) hm

theorem hasSubList_spec {rec : MId → Res Bool} {P : MId → Prop} {t : MId} {l : List MId}
    (h : ∀ sm ∈ l, ∃ b, rec sm = .ok b ∧ (b = true ↔ P sm)) :
    ∃ b, hasSubList rec t l = .ok b ∧ (b = true ↔ ∃ sm ∈ l, sm = t ∨ P sm) := by
  induction l with
  | nil => exact ⟨false, rfl, by simp⟩
  | cons sm rest ih =>
    obtain ⟨⟨b, hb, hP⟩, hrest⟩ := List.forall_mem_cons.1 h
    obtain ⟨b', hb', hP'⟩ := ih hrest
    simp only [hasSubList, hb, List.mem_cons, exists_eq_or_imp, ← hP, ← hP']
    by_cases ht : sm = t
    · exact ⟨true, if_pos ht, by simp [ht]⟩
    · cases b
      · exact ⟨b', by simp [ht, hb'], by simp [ht]⟩
      · exact ⟨true, by simp [ht], by simp⟩

theorem hasSub_spec {r : Reg} (hi : r.inv) (h0 : 0 < r.size) (t m : MId) :
    ∃ b, hasSub r t r.size m = .ok b ∧ (b = true ↔ r.Reach m t) :=
  hi.fuel_induction (G := fun f m => ∃ b, hasSub r t f m = .ok b ∧ (b = true ↔ r.Reach m t))
    (fun _ _ h => by rw [Reach.iff_child]; exact hasSubList_spec h) h0 m

theorem getAllSubs_spec {rec : MId → Res PMap} {Q : MId → Path → PId → Prop} {kv : List (Name × MId)}
    (h : ∀ e ∈ kv, ∃ l, rec e.2 = .ok l ∧ ∀ path p, (path, p) ∈ l ↔ Q e.2 path p) (acc : PMap) :
    ∃ L, getAllSubs rec kv acc = .ok (insertAll acc L) ∧
      ∀ path p, (path, p) ∈ L ↔ ∃ e ∈ kv, ∃ rest, path = e.1 :: rest ∧ Q e.2 rest p := by
  induction kv generalizing acc with
  | nil => exact ⟨[], rfl, by simp⟩
  | cons e rest ih =>
    obtain ⟨⟨l, hl, hQ⟩, hrest⟩ := List.forall_mem_cons.1 h
    obtain ⟨L, hL, hmem⟩ := ih hrest (emplaceSub e.1 l acc)
    refine ⟨l.map (fun y => (e.1 :: y.1, y.2)) ++ L, ?_, fun path p => ?_⟩
    · simp only [getAllSubs, hl, hL]
      simp only [insertAll, emplaceSub, List.foldl_append, List.foldl_map]
    · rw [List.mem_append, hmem, List.mem_map]
      simp only [List.mem_cons, exists_eq_or_imp, ← hQ]
      refine or_congr ⟨fun ⟨y, hy, h⟩ => ?_, fun ⟨rest, h, hy⟩ => ⟨_, hy, by rw [h]⟩⟩ .rfl
      cases h; exact ⟨_, rfl, hy⟩

theorem getAll_spec {r : Reg} (hi : r.inv) (h0 : 0 < r.size) (m : MId) :
    ∃ l, getAll r r.size m = .ok l ∧ Sorted l ∧ ∀ path p, (path, p) ∈ l ↔ ResolvesP r m path p := by
  refine hi.fuel_induction (G := fun f m => ∃ l, getAll r f m = .ok l ∧ Sorted l ∧
    ∀ path p, (path, p) ∈ l ↔ ResolvesP r m path p) (fun f m ih => ?_) h0 m
  have hp {n p} := kvFind_eq_some_iff (hi.wf m).pkeys_nodup (k := n) (v := p)
  have hs {n c} := kvFind_eq_some_iff (hi.wf m).skeys_nodup (k := n) (v := c)
  obtain ⟨L, hL, hmem⟩ := getAllSubs_spec (fun e he => (ih e.2 (((hi.wf m).sset_iff e.2).2 (List.mem_map_of_mem he))).imp
    fun _ h => ⟨h.1, h.2.2⟩) (emplaceOwn (r.get m).paramKv [])
  -- the entries inserted: the model's own parameters, then those of the submodels
  have hall path p : (path, p) ∈ (r.get m).paramKv.map (fun e => ([e.1], e.2)) ++ L ↔ ResolvesP r m path p := by
    rw [List.mem_append, hmem]
    constructor
    · rintro (h | ⟨e, he, rest, rfl, h⟩)
      · obtain ⟨e, he, h⟩ := List.mem_map.1 h
        cases h; exact .here (hp.2 he)
      · exact .sub (hs.2 he) h
    · intro h
      cases h with
      | here h => exact .inl (List.mem_map.2 ⟨(_, _), hp.1 h, rfl⟩)
      | sub h h' => exact .inr ⟨(_, _), hs.1 h, _, rfl, h'⟩
  refine ⟨insertAll [] ((r.get m).paramKv.map (fun e => ([e.1], e.2)) ++ L), ?_, insertAll_sorted .nil, fun path p => ?_⟩
  · rw [getAll, hL]
    simp only [insertAll, emplaceOwn, List.foldl_append, List.foldl_map]
  · exact (mem_insertAll (P := ResolvesP r m) (acc := []) ResolvesP.functional fun x hx => (hall x.1 x.2).1 hx).trans (hall path p)

theorem allParameters_spec {r : Reg} (hi : r.inv) {m : MId} {l : PMap} (h : r.allParameters m = .ok l) :
    Sorted l ∧ ∀ path p, (path, p) ∈ l ↔ ResolvesP r m path p := by
  have h0 : 0 < r.size := Nat.pos_of_ne_zero fun h0 => by rw [allParameters, h0] at h; cases h
  obtain ⟨l', hl', hspec⟩ := getAll_spec hi h0 m
  cases hl'.symm.trans h
  exact hspec

theorem mem_values_iff {r : Reg} (hi : r.inv) {m : MId} {l : PMap} (h : r.allParameters m = .ok l) {q : PId} :
    q ∈ l.map (·.2) ↔ ∃ path, ResolvesP r m path q := by
  simp only [List.mem_map, Prod.exists, exists_eq_right, (allParameters_spec hi h).2]

theorem inv_empty : Reg.empty.inv := by
  refine ⟨fun m => ?_, fun m c h => ?_, ⟨fun _ => 0, fun m c h => ?_⟩⟩
  · rw [get_of_size_le (Nat.zero_le m)]; exact MState.wf_default
  · exact absurd (child_lt_size h) (Nat.not_lt_zero m)
  · exact absurd (child_lt_size h) (Nat.not_lt_zero m)

theorem inv_newModel {r : Reg} (h : r.inv) : r.newModel.inv := by
  have hch m c (hc : r.newModel.child m c) : r.child m c := by rwa [child, get_newModel] at hc
  exact ⟨fun m => get_newModel r m ▸ h.wf m,
    fun m c hc => Nat.lt_of_lt_of_le (h.closed m c (hch m c hc)) (by simp [Reg.size, Reg.newModel]),
    h.acyclic.imp fun _ hrk m c hc => hrk m c (hch m c hc)⟩

theorem inv_newParam {r : Reg} (h : r.inv) (v : Bool) : (r.newParam v).inv := ⟨h.wf, h.closed, h.acyclic⟩

theorem inv_put {r : Reg} (hi : r.inv) {m : MId} (hm : m < r.size) {st : MState} (hst : st.wf)
    (hsub : ∀ y ∈ st.subSet, y < r.size)
    (hrk : ∃ rk : MId → Nat, (∀ x y, r.child x y → rk y < rk x) ∧ ∀ y ∈ st.subSet, rk y < rk m) : (r.put m st).inv := by
  have hchild x y (h : (r.put m st).child x y) : (x = m ∧ y ∈ st.subSet) ∨ r.child x y := by
    rw [child, get_put hm] at h
    split at h
    · exact .inl ⟨‹_›, h⟩
    · exact .inr h
  refine ⟨fun x => ?_, fun x y h => ?_, hrk.imp fun rk ⟨hold, hnew⟩ x y h => ?_⟩
  · rw [get_put hm]
    split
    · exact hst
    · exact hi.wf x
  · rw [size_put]
    exact (hchild x y h).elim (fun h => hsub y h.2) (hi.closed x y)
  · exact (hchild x y h).elim (fun h => h.1 ▸ hnew y h.2) (hold x y)

theorem inv_put_withParam {r : Reg} (hi : r.inv) {m : MId} (hm : m < r.size) {n : Name} {p : PId}
    (hn : n ∉ (r.get m).nameSet) (hp : p ∉ (r.get m).paramSet) : (r.put m ((r.get m).withParam n p)).inv :=
  inv_put hi hm (MState.wf_withParam (hi.wf m) hn hp) (hi.closed m) (hi.acyclic.imp fun _ hrk => ⟨hrk, hrk m⟩)

/-- the new edge `m → c`: lift `m` and everything above it over `c` -/
theorem rank_add_edge {r : Reg} {rk : MId → Nat} (hrk : ∀ x y, r.child x y → rk y < rk x) {m c : MId}
    (hne : c ≠ m) (hnr : ¬ r.Reach c m) : ∃ rk' : MId → Nat, (∀ x y, r.child x y → rk' y < rk' x) ∧ rk' c < rk' m := by
  let up (x : MId) : Prop := x = m ∨ r.Reach x m
  refine ⟨fun x => @ite _ (up x) (Classical.propDecidable _) (rk x + rk c + 1) (rk x), fun x y h => ?_, ?_⟩
  · have hlt := hrk x y h
    by_cases hy : up y
    · have hx : up x := .inr (hy.elim (· ▸ .single h) (.step h))
      simp only [hy, hx, if_true]
      omega
    · simp only [hy, if_false]
      split <;> omega
  · have hc : ¬ up c := fun h => h.elim hne hnr
    have hm : up m := .inl rfl
    simp only [hc, hm, if_false, if_true]
    omega

theorem inv_put_withSub {r : Reg} (hi : r.inv) {m : MId} (hm : m < r.size) {n : Name} {c : MId} (hc : c < r.size)
    (hne : c ≠ m) (hnr : ¬ r.Reach c m) (hn : n ∉ (r.get m).nameSet) (hcs : c ∉ (r.get m).subSet) :
    (r.put m ((r.get m).withSub n c)).inv := by
  obtain ⟨rk, hrk⟩ := hi.acyclic
  obtain ⟨rk', hold, hnew⟩ := rank_add_edge hrk hne hnr
  have hsub : ∀ y ∈ ((r.get m).withSub n c).subSet, r.child m y ∨ y = c := fun y hy => by
    rw [MState.withSub, setEmplace_of_not_mem hcs] at hy
    exact (List.mem_append.1 hy).imp_right List.mem_singleton.1
  exact inv_put hi hm (MState.wf_withSub (hi.wf m) hn hcs) (fun y hy => (hsub y hy).elim (hi.closed m y) (· ▸ hc))
    ⟨rk', hold, fun y hy => (hsub y hy).elim (hold m y) (· ▸ hnew)⟩

/-- `add(name, param)`: the identical re-add is a no-op; otherwise a taken name or a registered object is
rejected; otherwise the three containers take the entry. -/
theorem addParam_decides (r : Reg) (m : MId) (n : Name) (p : PId) :
    (r.addParam m n p).Decides (kvFind (r.get m).paramKv n = some p) (n ∈ (r.get m).nameSet ∨ p ∈ (r.get m).paramSet)
      r r (r.put m ((r.get m).withParam n p)) := by
  unfold addParam Out.Decides MState.withParam
  by_cases h1 : kvFind (r.get m).paramKv n = some p
  · simp [h1]
  · by_cases h2 : n ∈ (r.get m).nameSet
    · simp [h1, h2]
    · by_cases h3 : p ∈ (r.get m).paramSet <;> simp [h1, h2, h3]

/-- `add(name, model)`: unless `has_submodel` runs out of fuel, the same with the two cycle checks. -/
theorem addSub_decides (r : Reg) (m : MId) (n : Name) (c : MId) :
    (hasSub r m r.size c = .crash ∧ r.addSub m n c = .crash) ∨
    (r.addSub m n c).Decides (kvFind (r.get m).subKv n = some c)
      (c = m ∨ hasSub r m r.size c ≠ .ok false ∨ n ∈ (r.get m).nameSet ∨ c ∈ (r.get m).subSet)
      r r (r.put m ((r.get m).withSub n c)) := by
  unfold addSub Out.Decides MState.withSub
  by_cases h1 : kvFind (r.get m).subKv n = some c
  · simp [h1]
  · by_cases h2 : c = m
    · subst h2; simp [h1]
    · rcases h3 : hasSub r m r.size c with b | _ | _
      · cases b
        · by_cases h4 : n ∈ (r.get m).nameSet
          · simp [h1, h2, h4]
          · by_cases h5 : c ∈ (r.get m).subSet <;> simp [h1, h2, h4, h5]
        · simp [h1, h2]
      · simp [h1, h2]
      · simp [h1, h2]

theorem addSub_decides_of_inv {r : Reg} (hi : r.inv) (m : MId) (n : Name) {c : MId} (hc : c < r.size) :
    (r.addSub m n c).Decides (kvFind (r.get m).subKv n = some c)
      (c = m ∨ r.Reach c m ∨ n ∈ (r.get m).nameSet ∨ c ∈ (r.get m).subSet)
      r r (r.put m ((r.get m).withSub n c)) := by
  obtain ⟨b, hb, hr⟩ := hasSub_spec hi (Nat.zero_lt_of_lt hc) m c
  rcases addSub_decides r m n c with ⟨h, _⟩ | h
  · rw [hb] at h; cases h
  · refine h.congr (or_congr_right (or_congr_left ?_))
    rw [hb, ← hr]
    cases b <;> simp

theorem addParam_error {r r' : Reg} {m : MId} {n : Name} {p : PId} (h : r.addParam m n p = .error r') : r' = r :=
  ((addParam_decides r m n p).of_error h).1

theorem addSub_error {r r' : Reg} {m : MId} {n : Name} {c : MId} (h : r.addSub m n c = .error r') : r' = r :=
  (addSub_decides r m n c).elim (fun hc => by rw [hc.2] at h; cases h) fun hd => (hd.of_error h).1

theorem addParam_ok {r r' : Reg} (hi : r.inv) {m : MId} (hm : m < r.size) {n : Name} {p : PId}
    (h : r.addParam m n p = .ok r') : r'.inv ∧ kvFind (r'.get m).paramKv n = some p := by
  rcases (addParam_decides r m n p).of_ok h with ⟨hA, rfl⟩ | ⟨_, hB, rfl⟩
  · exact ⟨hi, hA⟩
  · obtain ⟨hn, hp⟩ := not_or.1 hB
    rw [get_put hm, if_pos rfl]
    exact ⟨inv_put_withParam hi hm hn hp, MState.find_withParam (hi.wf m) hn hp⟩

/-- Only the invariant needs `c` to be a model of the registry; that the name is
registered does not (`readd_after_add` has no such hypothesis), hence the implication inside. -/
theorem addSub_ok {r r' : Reg} (hi : r.inv) {m : MId} (hm : m < r.size) {n : Name} {c : MId}
    (h : r.addSub m n c = .ok r') : (c < r.size → r'.inv) ∧ kvFind (r'.get m).subKv n = some c := by
  rcases addSub_decides r m n c with ⟨_, hc⟩ | hd
  · rw [hc] at h; cases h
  · rcases hd.of_ok h with ⟨hA, rfl⟩ | ⟨_, hB, rfl⟩
    · exact ⟨fun _ => hi, hA⟩
    · obtain ⟨hne, hs, hn, hcs⟩ :
          c ≠ m ∧ hasSub r m r.size c = .ok false ∧ n ∉ (r.get m).nameSet ∧ c ∉ (r.get m).subSet := by
        simpa only [not_or, ne_eq, Decidable.not_not] using hB
      obtain ⟨b, hb, hr⟩ := hasSub_spec hi (Nat.zero_lt_of_lt hm) m c
      cases hb.symm.trans hs
      rw [get_put hm, if_pos rfl]
      exact ⟨fun hc => inv_put_withSub hi hm hc hne (fun h => Bool.false_ne_true (hr.2 h)) hn hcs,
        MState.find_withSub (hi.wf m) hn hcs⟩

theorem inv_step {r : Reg} (hi : r.inv) (op : Op) : (r.step op).inv := by
  have hstate {o : Out Reg} (hok : ∀ r', o = .ok r' → r'.inv) (herr : ∀ r', o = .error r' → r' = r) :
      (o.state r).inv := by
    rcases o with r' | r' | _
    · exact hok r' rfl
    · exact herr r' rfl ▸ hi
    · exact hi
  cases op with
  | newModel => exact inv_newModel hi
  | newParam v => exact inv_newParam hi v
  | addParam m n p =>
    simp only [step]
    split
    · exact hstate (fun _ h => (addParam_ok hi ‹_› h).1) fun _ => addParam_error
    · exact hi
  | addSub m n c =>
    simp only [step]
    split
    · rename_i hm
      exact hstate (fun _ h => (addSub_ok hi hm.1 h).1 hm.2) fun _ => addSub_error
    · exact hi

theorem inv_foldl {r : Reg} (hi : r.inv) (ops : List Op) : (ops.foldl Reg.step r).inv := by
  induction ops generalizing r with
  | nil => exact hi
  | cons op rest ih => exact ih (inv_step hi op)

end Reg

namespace Opt

/-- `add_inner(Parameter &)`: a registered parameter is a no-op; otherwise `configure_parameter` runs,
and throws exactly for an invalid parameter under an optimizer that keeps statistics. -/
theorem addParam_decides (valid : PId → Bool) (o : Opt) (p : PId) :
    (addParam valid o p).Decides (p ∈ o.params) (o.needsStats = true ∧ valid p = false)
      o { o with configs := o.configs ++ [p] } { o with configs := o.configs ++ [p], params := o.params ++ [p] } := by
  unfold addParam Out.Decides
  by_cases h1 : p ∈ o.params
  · simp [h1]
  · by_cases h2 : o.needsStats = true ∧ valid p = false <;> simp [h1, h2]

theorem addParam_ok {valid : PId → Bool} {o o' : Opt} {p : PId} (h : addParam valid o p = .ok o') :
    o'.needsStats = o.needsStats ∧ (o.params.Nodup → o'.params.Nodup) ∧ ∀ q, q ∈ o'.params ↔ q ∈ o.params ∨ q = p := by
  rcases (addParam_decides valid o p).of_ok h with ⟨hA, rfl⟩ | ⟨hA, _, rfl⟩
  · exact ⟨rfl, id, fun q => ⟨.inl, fun hq => hq.elim id (· ▸ hA)⟩⟩
  · exact ⟨rfl, fun hn => nodup_snoc.2 ⟨hn, hA⟩, fun q => by simp⟩

theorem addParam_wf {valid : PId → Bool} {o o' : Opt} {p : PId} (hw : o.wf valid)
    (h : addParam valid o p = .ok o' ∨ addParam valid o p = .error o') : o'.wf valid := by
  obtain ⟨h1, h2, h3⟩ := hw
  have hd := addParam_decides valid o p
  -- `configure_parameter` has run once more for `p` and for no other parameter
  have hcount (q : PId) : (o.configs ++ [p]).count q = o.configCount q + if p = q then 1 else 0 := by
    rw [List.count_append, List.count_singleton, configCount]; simp only [beq_iff_eq]
  rcases h with h | h
  · rcases hd.of_ok h with ⟨_, rfl⟩ | ⟨hA, hB, rfl⟩
    · exact ⟨h1, h2, h3⟩
    · have hpc : o.configCount p = 0 := List.count_eq_zero.2 fun hin => hB (h3 p hin hA)
      refine ⟨nodup_snoc.2 ⟨h1, hA⟩, fun q hq => ?_, fun q hq hq' => ?_⟩
      · show (o.configs ++ [p]).count q = 1
        rw [hcount]
        rcases List.mem_append.1 hq with hq | hq
        · rw [h2 q hq, if_neg fun (e : p = q) => hA (e ▸ hq)]
        · cases List.mem_singleton.1 hq; rw [hpc, if_pos rfl]
      · simp only [List.mem_append, List.mem_singleton, not_or] at hq hq'
        exact h3 q (hq.resolve_right hq'.2) hq'.1
  · obtain ⟨rfl, hA, hB⟩ := hd.of_error h
    refine ⟨h1, fun q hq => ?_, fun q hq hq' => ?_⟩
    · show (o.configs ++ [p]).count q = 1
      rw [hcount, h2 q hq, if_neg fun (e : p = q) => hA (e ▸ hq)]
    · rcases List.mem_append.1 hq with hq | hq
      · exact h3 q hq hq'
      · cases List.mem_singleton.1 hq; exact hB

theorem addList_ok {valid : PId → Bool} {o o' : Opt} {ps : List PId} (h : addList valid o ps = .ok o') :
    o'.needsStats = o.needsStats ∧ (o.params.Nodup → o'.params.Nodup) ∧ ∀ q, q ∈ o'.params ↔ q ∈ o.params ∨ q ∈ ps := by
  fun_induction addList valid o ps with
  | case1 o => cases h; exact ⟨rfl, id, by simp⟩
  | case2 o p ps o1 h1 ih =>
    obtain ⟨a1, a2, a3⟩ := addParam_ok h1
    obtain ⟨b1, b2, b3⟩ := ih h
    exact ⟨b1.trans a1, b2 ∘ a2, fun q => by rw [b3 q, a3 q, List.mem_cons, or_assoc]⟩
  | case3 => cases h
  | case4 => cases h

theorem addList_wf {valid : PId → Bool} {o o' : Opt} {ps : List PId} (hw : o.wf valid)
    (h : addList valid o ps = .ok o' ∨ addList valid o ps = .error o') : o'.wf valid := by
  fun_induction addList valid o ps with
  | case1 => rcases h with h | h <;> cases h; exact hw
  | case2 _ _ _ _ h1 ih => exact ih (addParam_wf hw (.inl h1)) h
  | case3 _ _ _ _ h1 => rcases h with h | h <;> cases h; exact addParam_wf hw (.inr h1)
  | case4 => rcases h with h | h <;> cases h

theorem addList_ne_crash (valid : PId → Bool) (o : Opt) (ps : List PId) : addList valid o ps ≠ .crash := by
  fun_induction addList valid o ps with
  | case1 => nofun
  | case2 _ _ _ _ _ ih => exact ih
  | case3 => nofun
  | case4 _ _ _ h => exact absurd h (addParam_decides _ _ _).ne_crash

theorem addList_error {valid : PId → Bool} {o o' : Opt} {ps : List PId} (h : addList valid o ps = .error o') :
    o.needsStats = true ∧ ∃ p ∈ ps, valid p = false := by
  fun_induction addList valid o ps with
  | case1 => cases h
  | case2 _ _ _ _ h1 ih =>
    obtain ⟨a, q, hq, hv⟩ := ih h
    exact ⟨(addParam_ok h1).1 ▸ a, q, List.mem_cons_of_mem _ hq, hv⟩
  | case3 o p _ _ h1 =>
    obtain ⟨_, _, a, b⟩ := (addParam_decides valid o p).of_error h1
    exact ⟨a, p, List.mem_cons_self, b⟩
  | case4 => cases h

theorem addList_all_valid {valid : PId → Bool} {o : Opt} {ps : List PId} (hv : o.needsStats = false ∨ ∀ p ∈ ps, valid p = true) :
    ∃ o', addList valid o ps = .ok o' := by
  rcases h : addList valid o ps with o' | o' | _
  · exact ⟨o', rfl⟩
  · obtain ⟨a, p, hp, hp'⟩ := addList_error h
    rcases hv with hv | hv
    · rw [hv] at a; cases a
    · rw [hv p hp] at hp'; cases hp'
  · exact absurd h (addList_ne_crash _ _ _)

end Opt

end Primitiv.Registry
