import PrimitivModel.Spec.Cow
import PrimitivModel.Lemmas.CowBase
import PrimitivModel.Lemmas.CowShape
/-
The specification Spec/Cow.lean on its own: every operation rewrites only the
slots it names as targets, stores there only shapes without an axis of extent 0
when the pool held none, and then never answers `crash` (the only `crash` of the
shape rules is the division by a 0 extent in `update_dim`).
-/
namespace Primitiv.Cow

def ValNZ : Option AVal → Prop
  | some (some (sh, _)) => NZ sh
  | _ => True

def PoolNZ (a : AState) : Prop := ∀ i, ValNZ (getSlot a.pool i)

theorem poolNZ_init : PoolNZ Spec.init := fun i => by rw [Spec.init, getSlot_nil]; trivial

theorem PoolNZ.get {a : AState} (ha : PoolNZ a) {h : Nat} {sh : Shape} {vs : List Int}
    (hv : getSlot a.pool h = some (some (sh, vs))) : NZ sh := by
  have := ha h; rwa [hv] at this

namespace Spec

structure Ok (T : List Nat) (a : AState) (r : AState × Out) : Prop where
  iso : ∀ j, j ∉ T → getSlot r.1.pool j = getSlot a.pool j
  nz : PoolNZ a → PoolNZ r.1
  safe : PoolNZ a → r.2 ≠ .crash

variable {T : List Nat} {a : AState}

theorem Ok.same {o : Out} (ho : o ≠ .crash) : Ok T a (a, o) := ⟨fun _ _ => rfl, id, fun _ => ho⟩

/-- a branch the shape rules only take on a shape with a 0-axis -/
theorem Ok.vacuous {o : Out} (h : ¬ PoolNZ a) : Ok T a (a, o) := ⟨fun _ _ => rfl, id, fun ha => absurd ha h⟩

theorem Ok.set {h : Nat} {v : Option AVal} (ht : h ∈ T) (hv : PoolNZ a → ValNZ v) : Ok T a (setT a h v, .ok) := by
  refine ⟨fun j hj => getSlot_setSlot_ne _ _ (fun e => hj (e ▸ ht)), fun ha i => ?_, fun _ => nofun⟩
  simp only [setT, getSlot_setSlot]
  split
  · exact hv ha
  · exact ha i

theorem Ok.after {a1 : AState} {o1 : Out} {r : AState × Out} (h1 : Ok T a (a1, o1)) (h2 : Ok T a1 r) : Ok T a r :=
  ⟨fun j hj => (h2.iso j hj).trans (h1.iso j hj), fun ha => h2.nz (h1.nz ha), fun ha => h2.safe (h1.nz ha)⟩

theorem Ok.set2 {h g : Nat} {v w : Option AVal} (hh : h ∈ T) (hg : g ∈ T) (hv : PoolNZ a → ValNZ v) (hw : ValNZ w) :
    Ok T a (setT (setT a h v) g w, .ok) :=
  (Ok.set hh hv).after (.set hg fun _ => hw)

theorem Ok.flag {a1 : AState} {o : Out} (h : Ok T a (a1, o)) (l : List Bool) : Ok T a ({ a1 with pvalid := l }, o) :=
  ⟨h.iso, h.nz, h.safe⟩

theorem Ok.guard (h : Nat) {G : Shape → List Int → AState × Out}
    (hG : ∀ sh vs, getSlot a.pool h = some (some (sh, vs)) → Ok T a (G sh vs)) :
    Ok T a (match getSlot a.pool h with
            | none => (a, .noobj)
            | some none => (a, .err)
            | some (some (sh, vs)) => G sh vs) := by
  split
  · exact .same nofun
  · exact .same nofun
  · next sh vs hv => exact hG sh vs hv

/-- for `valid`, `device`, `positive`, whose specification does not take the value apart -/
theorem Ok.guard' (h : Nat) {oi : Out} (hoi : oi ≠ .crash) {G : Shape × List Int → AState × Out}
    (hG : ∀ v, getSlot a.pool h = some (some v) → Ok T a (G v)) :
    Ok T a (match getSlot a.pool h with
            | none => (a, .noobj)
            | some none => (a, oi)
            | some (some v) => G v) := by
  split
  · exact .same nofun
  · exact .same hoi
  · next v hv => exact hG v hv

theorem Ok.some (h : Nat) {G : AVal → AState × Out} (hG : ∀ v, getSlot a.pool h = some v → Ok T a (G v)) :
    Ok T a (match getSlot a.pool h with
            | none => (a, .noobj)
            | some v => G v) := by
  split
  · exact .same nofun
  · next v hv => exact hG v hv

theorem withShape_ok {dims : List Nat} {batch : Nat} {k : Shape → AState × Out}
    (hk : ∀ sh, Shape.new dims batch = .ok sh → Ok T a (k sh)) : Ok T a (withShape a dims batch k) := by
  unfold withShape
  split
  · next hc => exact absurd hc (new_keeps _ _).1
  · exact .same nofun
  · next sh hn => exact hk sh hn

theorem copyOp_ok (h : Nat) {g : Nat} (hg : g ∈ T) : Ok T a (copyOp a h g) :=
  .some h fun _ hv => .set hg fun ha => hv ▸ ha h

theorem viewOp_ok (h : Nat) {g : Nat} (hg : g ∈ T) {rule : Shape → R Shape}
    (hr : ∀ x, Keeps (rule x)) : Ok T a (viewOp a h g rule) := by
  refine .guard h fun sh vs _ => ?_
  split
  · next hc => exact absurd hc (hr sh).1
  · exact .same nofun
  · next rsh hrsh => exact .set hg fun _ => (hr sh).2 rsh hrsh

theorem freshOp_ok (h : Nat) {g : Nat} (hg : g ∈ T) {rule : Shape → R Shape}
    (hr : ∀ x, NZ x → Keeps (rule x)) : Ok T a (freshOp a h g rule) := by
  refine .guard h fun sh vs hv => ?_
  have hsh : PoolNZ a → NZ sh := fun ha => ha.get hv
  split
  · next hc => exact .vacuous fun ha => (hr sh (hsh ha)).1 hc
  · exact .same nofun
  · next rsh hrsh => exact .set hg fun ha => (hr sh (hsh ha)).2 rsh hrsh

theorem inplace1_ok {h : Nat} (hh : h ∈ T) (f : Nat → List Int → List Int) : Ok T a (inplace1 a h f) :=
  .guard h fun _ _ hv => .set hh fun ha => ha.get hv

theorem inplace2_ok (f : Int → Int → Int) {h : Nat} (hh : h ∈ T) (g : Nat) : Ok T a (inplace2 f a h g) := by
  unfold inplace2
  split
  · next vy vx hy hx =>
    split
    · split
      · exact .same nofun
      · exact .set hh fun ha => ha.get hy
    · exact .same nofun
  · exact .same nofun

theorem accum_ok {dst : Nat} (hd : dst ∈ T) (src : Nat) (K : List Int → List Int → List Int) :
    Ok T a (accum a dst src K) := by
  unfold accum
  split
  · next sd Y _ _ hy _ => exact .set hd fun ha => ha.get hy
  · exact .same nofun

theorem bwOp_ok (gy : Nat) {gx : Nat} (hx : gx ∈ T) {ok : Shape → Shape → R Bool}
    (K : Shape → Shape → List Int → List Int → List Int)
    (hok : ∀ sy sx, NZ sx → ok sy sx ≠ .error .crash) : Ok T a (bwOp a gy gx ok K) := by
  unfold bwOp
  split
  · split
    · exact .same nofun
    · split
      · next sy _ sx _ _ hvx =>
        split
        · next hc => exact .vacuous fun ha => hok sy sx (ha.get hvx) hc
        · exact .same nofun
        · exact .same nofun
        · exact accum_ok hx _ _
      · exact .same nofun
  · exact .same nofun

theorem abBwOp_ok (g : Int → Int → Int) (gy : Nat) {ga gb : Nat} (ha : ga ∈ T) (hb : gb ∈ T) :
    Ok T a (abBwOp g a gy ga gb) := by
  unfold abBwOp
  split
  · split
    · exact .same nofun
    · split
      · split
        · next hc => exact absurd hc (abBwOk_ne_crash _ _ _)
        · exact .same nofun
        · exact .same nofun
        · dsimp only
          split
          · exact (accum_ok ha _ _).after (accum_ok hb _ _)
          · exact accum_ok ha _ _
      · exact .same nofun
  · exact .same nofun

theorem step_ok (a : AState) (op : Op) : Ok (targets op) a (step a op) := by
  have tgt1 : ∀ {h : Nat} {l : List Nat}, h ∈ h :: l := List.mem_cons_self
  have tgt2 : ∀ {h g : Nat}, g ∈ [h, g] := List.mem_cons_of_mem _ List.mem_cons_self
  cases op with
  | new h dims batch vals =>
    refine withShape_ok fun sh hsh => ?_
    split
    · exact .same nofun
    · exact .set tgt1 fun _ => (new_keeps _ _).2 sh hsh
  | copy h g | copyctor h g => exact copyOp_ok h tgt1
  | move h g =>
    refine .some h fun v hv => ?_
    split
    · exact .same nofun
    · exact .set2 tgt2 tgt1 (fun ha => hv ▸ ha h) trivial
  | reshape h g dims batch =>
    exact .some h fun _ _ =>
      withShape_ok fun nsh hn => viewOp_ok h tgt1 fun x => reshape_keeps x ((new_keeps _ _).2 nsh hn)
  | flatten h g => exact viewOp_ok h tgt1 flatten_keeps
  | reset h k => exact inplace1_ok tgt1 fun n D => fill n k D
  | imul h k | dimul h k => exact inplace1_ok tgt1 fun n D => scale n k D
  | resetv h vals =>
    refine .guard h fun sh _ _ => ?_
    split
    · exact .same nofun
    · exact inplace1_ok tgt1 _
  | iadd h g | isub h g | diadd h g | disub h g => exact inplace2_ok _ tgt1 g
  | invalidate h | drop h => exact .some h fun _ _ => .set tgt1 fun _ => trivial
  | read h | shape h => exact .guard h fun _ _ _ => .same nofun
  | valid h | device h => exact .guard' h (by nofun) fun _ _ => .same nofun
  | param p dims batch vals =>
    refine withShape_ok fun sh hsh => ?_
    dsimp only
    split
    · exact .same nofun
    · split
      · exact .same nofun
      · refine Ok.flag ?_ _
        exact .set2 tgt1 tgt2 (fun _ => (new_keeps _ _).2 sh hsh) ((new_keeps _ _).2 sh hsh)
  | pvalue p g | pgrad p g | ptensor p g =>
    show Ok _ a (if a.pvalid.getD p false = true then _ else _)
    split
    · exact copyOp_ok _ tgt1
    · exact .same nofun
  | piaddValue p g | piaddGrad p g =>
    refine .some g fun _ _ => ?_
    split
    · exact inplace2_ok _ tgt1 g
    · exact .same nofun
  | pdrop p =>
    refine Ok.flag ?_ _
    exact .set2 tgt1 tgt2 (fun _ => trivial) trivial
  | live | readall => exact .same nofun
  | dsliceBw gy dim off gx => exact bwOp_ok gy tgt1 _ fun sy sx _ => sliceBwOk_ne_crash _ _ _ _
  | dpickBw gy dim ids gx => exact bwOp_ok gy tgt1 _ fun sy sx hx => pickBwOk_ne_crash _ _ _ hx
  | dflipBw gy dim gx => exact bwOp_ok gy tgt1 _ fun sy sx _ => flipBwOk_ne_crash _ _
  | dtransposeBw gy gx => exact bwOp_ok gy tgt1 _ fun sy sx _ => transposeBwOk_ne_crash _ _
  | daddBw gy ga gb | dsubBw gy ga gb => exact abBwOp_ok _ gy tgt1 tgt2
  | fcopy h g => exact freshOp_ok (rule := fun sh => pure sh) h tgt1 fun x hx => keeps_pure hx
  | fpositive h g => exact .guard' h (by nofun) fun v hv => .set tgt1 fun ha => hv ▸ ha h
  | fconcat1 h g dim => exact freshOp_ok h tgt1 fun x hx => concat1_keeps hx dim
  | fbconcat1 h g => exact freshOp_ok h tgt1 fun x hx => bconcat1_keeps hx
  | probe fn h => exact .guard h fun _ _ _ => by split <;> exact .same nofun

theorem run_poolNZ {a : AState} (ha : PoolNZ a) (ops : List Op) : PoolNZ (run a ops).1 := by
  induction ops generalizing a with
  | nil => exact ha
  | cons op ops ih => exact ih ((step_ok a op).nz ha)

end Spec
end Primitiv.Cow
