import PrimitivModel.Model.KernelsMove
import Mathlib.Tactic.Ring
/-
The three-way view of a column-major buffer from an axis `d`:
every flat index is uniquely `a + lo * (k + n * c)` with `a < lo` (position below
the axis, `lo = lower_volume d`), `k < n` (position on the axis) and `c`
(position above the axis, the minibatch being its outermost part), and the
offsets the kernels compute, `i % skip1 + (i / skip1) * skip2 + j * skip1` with
`skip2 = skip1 * n`, are exactly `comp3`.  The step counter of three nested
sequential loops (`t = (b * rep + i) * base + j`) is a `comp3` as well, so the
same lemmas give its counters.
-/
namespace Primitiv.View3

def comp3 (lo n a k c : Nat) : Nat := a + lo * (k + n * c)

def below (lo : Nat) (i : Nat) : Nat := i % lo
def onAxis (lo n : Nat) (i : Nat) : Nat := i / lo % n
def above (lo n : Nat) (i : Nat) : Nat := i / (lo * n)

theorem pos_of_lt_mul {t a b : Nat} (h : t < a * b) : 0 < a ∧ 0 < b := by
  constructor <;> apply Nat.pos_of_ne_zero <;> rintro rfl <;> simp at h

theorem add_mul_mod {a s : Nat} (c : Nat) (h : a < s) : (a + s * c) % s = a := by
  rw [Nat.add_mul_mod_self_left, Nat.mod_eq_of_lt h]

theorem add_mul_div {a s : Nat} (c : Nat) (h : a < s) : (a + s * c) / s = c := by
  rw [Nat.add_mul_div_left _ _ (Nat.zero_lt_of_lt h), Nat.div_eq_of_lt h, Nat.zero_add]

theorem lt_mul_of_lt {a lo m M : Nat} (h1 : a < lo) (h2 : m < M) : a + lo * m < lo * M := by
  have : lo * (m + 1) ≤ lo * M := Nat.mul_le_mul_left lo h2
  rw [Nat.mul_add] at this; omega

theorem comp3_lt {lo n hi a k c : Nat} (ha : a < lo) (hk : k < n) (hc : c < hi) :
    comp3 lo n a k c < lo * n * hi := by
  rw [Nat.mul_assoc]
  exact lt_mul_of_lt ha (lt_mul_of_lt hk hc)

theorem below_comp3 {lo n a k c : Nat} (ha : a < lo) : below lo (comp3 lo n a k c) = a := add_mul_mod _ ha

theorem div_lo_comp3 {lo n a k c : Nat} (ha : a < lo) : comp3 lo n a k c / lo = k + n * c := add_mul_div _ ha

theorem onAxis_comp3 {lo n a k c : Nat} (ha : a < lo) (hk : k < n) : onAxis lo n (comp3 lo n a k c) = k := by
  unfold onAxis
  rw [div_lo_comp3 ha, add_mul_mod _ hk]

theorem above_comp3 {lo n a k c : Nat} (ha : a < lo) (hk : k < n) : above lo n (comp3 lo n a k c) = c := by
  unfold above
  rw [← Nat.div_div_eq_div_mul, div_lo_comp3 ha, add_mul_div _ hk]

theorem comp3_decomp (lo n i : Nat) : comp3 lo n (below lo i) (onAxis lo n i) (above lo n i) = i := by
  unfold comp3 below onAxis above
  rw [← Nat.div_div_eq_div_mul, Nat.mod_add_div, Nat.mod_add_div]

theorem below_lt {lo i : Nat} (h : 0 < lo) : below lo i < lo := Nat.mod_lt _ h
theorem onAxis_lt {lo n i : Nat} (h : 0 < n) : onAxis lo n i < n := Nat.mod_lt _ h
theorem above_lt {lo n hi i : Nat} (h : i < lo * n * hi) : above lo n i < hi := Nat.div_lt_of_lt_mul h

theorem exists_comp3 {lo n hi i : Nat} (h : i < lo * n * hi) :
    ∃ a k c, a < lo ∧ k < n ∧ c < hi ∧ comp3 lo n a k c = i :=
  have ⟨hlo, hn⟩ := pos_of_lt_mul (pos_of_lt_mul h).1
  ⟨_, _, _, below_lt hlo, onAxis_lt hn, above_lt h, comp3_decomp lo n i⟩

theorem comp3_inj {lo n a k c a' k' c' : Nat} (ha : a < lo) (hk : k < n) (ha' : a' < lo) (hk' : k' < n)
    (h : comp3 lo n a k c = comp3 lo n a' k' c') : a = a' ∧ k = k' ∧ c = c' := by
  have e1 := congrArg (below lo) h
  have e2 := congrArg (onAxis lo n) h
  have e3 := congrArg (above lo n) h
  rw [below_comp3 ha, below_comp3 ha'] at e1
  rw [onAxis_comp3 ha hk, onAxis_comp3 ha' hk'] at e2
  rw [above_comp3 ha hk, above_comp3 ha' hk'] at e3
  exact ⟨e1, e2, e3⟩

/-- `i` is the index of the output element (`i = a + lo * c`, the output having size 1 along the
axis), `j` the step along the axis. -/
theorem axisOff_eq_comp3 (lo n i j : Nat) :
    Move.axisOff lo (lo * n) i j = comp3 lo n (i % lo) j (i / lo) := by
  unfold Move.axisOff comp3; ring

theorem axisOff_at {L n a c k : Nat} (ha : a < L) : Move.axisOff L (L * n) (a + L * c) k = comp3 L n a k c := by
  rw [axisOff_eq_comp3, add_mul_mod _ ha, add_mul_div _ ha]

theorem axisOff_lt {lo n hi i j : Nat} (hlo : 0 < lo) (hi' : i < lo * hi) (hj : j < n) :
    Move.axisOff lo (lo * n) i j < lo * n * hi := by
  rw [axisOff_eq_comp3]
  exact comp3_lt (Nat.mod_lt _ hlo) hj (Nat.div_lt_of_lt_mul hi')

theorem comp3_one (lo a c : Nat) : comp3 lo 1 a 0 c = a + lo * c := by
  unfold comp3; ring

theorem seq3_eq_comp3 (B C b i j : Nat) : (b * B + i) * C + j = comp3 C B j i b := by
  unfold comp3; ring

theorem seq2_bounds {A C t : Nat} (h : t < A * C) : t % C < C ∧ t / C < A :=
  ⟨Nat.mod_lt _ (pos_of_lt_mul h).2, Nat.div_lt_of_lt_mul (by rwa [Nat.mul_comm])⟩

theorem seq3_bounds {A B C t : Nat} (h : t < A * B * C) :
    t % C < C ∧ t / C % B < B ∧ t / (C * B) < A := by
  have ⟨h1, h2⟩ := seq2_bounds h
  have ⟨h3, h4⟩ := seq2_bounds h2
  exact ⟨h1, h3, by rwa [← Nat.div_div_eq_div_mul]⟩

theorem seq3_index {B C b i j : Nat} (hi : i < B) (hj : j < C) :
    ((b * B + i) * C + j) % C = j ∧ ((b * B + i) * C + j) / C % B = i ∧ ((b * B + i) * C + j) / (C * B) = b := by
  rw [seq3_eq_comp3]
  exact ⟨below_comp3 hj, onAxis_comp3 hj hi, above_comp3 hj hi⟩

theorem seq3_lt {A B C b i j : Nat} (hb : b < A) (hi : i < B) (hj : j < C) : (b * B + i) * C + j < A * B * C := by
  rw [seq3_eq_comp3, show A * B * C = C * B * A by ring]
  exact comp3_lt hj hi hb

theorem seq3_batch {U C t0 b : Nat} (ht0 : t0 < U * C) :
    (t0 + U * C * b) % C = t0 % C ∧ (t0 + U * C * b) / C % U = t0 / C % U ∧ (t0 + U * C * b) / (C * U) = b := by
  have ⟨_, hC⟩ := pos_of_lt_mul ht0
  rw [← Nat.div_div_eq_div_mul, show t0 + U * C * b = t0 + C * (U * b) by ring, Nat.add_mul_div_left _ _ hC]
  exact ⟨Nat.add_mul_mod_self_left .., Nat.add_mul_mod_self_left .., add_mul_div _ (seq2_bounds ht0).2⟩

end Primitiv.View3
