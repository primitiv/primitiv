import PrimitivModel.Lemmas.MovePlans
/-
Acceptance of the per-sample calls: when a backward front-end accepts
operands with a minibatch, it accepts the same call on one sample of `gy`
(`oneSample gy`), and which plan it then returns.
-/
namespace Primitiv.Move.Front
open Primitiv Primitiv.Move Primitiv.MoveShape

theorem eq_oneSample {a b : Shape} (h : a.eq b = true) : (oneSample a).eq (oneSample b) = true := by
  unfold Shape.eq at h ⊢
  simp only [Bool.and_eq_true, beq_iff_eq] at h ⊢
  exact ⟨h.1, rfl⟩

theorem sliceBw_oneSample {sy sx : Shape} {dim offset : Nat} {p : SliceBwPlan}
    (h : sliceBw sy sx dim offset = .ok p) : ∃ p1, sliceBw (oneSample sy) sx dim offset = .ok p1 := by
  obtain ⟨loo, h1, h⟩ := bind_ok.mp h
  have ⟨hc, _⟩ := ite_ok h
  simp only [Bool.or_eq_true, not_or, Bool.not_eq_true, Bool.not_eq_false'] at hc
  -- the one-sample call passes the same guard: only the batch of `sy` changed, to 1
  have hcb : (oneSample sy).hasCompatibleBatch sx = true := by
    unfold Shape.hasCompatibleBatch oneSample; simp
  have e : (oneSample sy).hasSameLooDims sx dim = .ok true := by rw [← hc.1.1]; exact h1
  unfold sliceBw sliceBwWith
  simp only [e, bind, Except.bind, hcb, show (oneSample sy).get dim = sy.get dim from rfl, hc.2, Bool.not_true,
    Bool.or_self, Bool.false_eq_true, if_false]
  split <;> exact ⟨_, rfl⟩

theorem pick_inv {x y : Shape} {ids : List Nat} {dim : Nat} (h : ShapeOps.pick x ids dim = .ok y) :
    ids.length % W ≠ 0 ∧ (∀ i ∈ ids, i < x.get dim) ∧
    ∃ r, x.resizeDim dim 1 = .ok r ∧ y = { r with batch := max x.batch (ids.length % W) } := by
  have ⟨hc, h⟩ := ite_ok h
  have ⟨hids, h⟩ := ite_ok h
  obtain ⟨r, h1, h⟩ := bind_ok.mp h
  have ⟨_, h⟩ := ite_ok h
  have ⟨_, h⟩ := ite_ok h
  exact ⟨by omega, ids_lt hids, r, h1, (Except.ok.inj h).symm⟩

theorem pick_single {x r : Shape} {dim id : Nat} (hx : WF x) (hr : x.resizeDim dim 1 = .ok r) (hid : id < x.get dim) :
    ShapeOps.pick x [id] dim = .ok { r with batch := max x.batch 1 } := by
  have ⟨_, _, hrw, hrb, _, _⟩ := updateDim_ok hx hr
  unfold ShapeOps.pick
  simp only [List.length_singleton, Nat.one_mod_eq_one.mpr (by decide : W ≠ 1)]
  have h2 : ¬ ([id].any fun i => decide (i ≥ x.get dim)) = true := by simp; omega
  rw [if_neg (by omega), if_neg h2]
  simp only [hr, bind, Except.bind]
  unfold Shape.updateBatch
  have hb := hx.bpos
  have hfit : ¬ r.volume * max x.batch 1 > MAXU := by
    have := hrw.fits
    rw [hrb] at this
    rw [show max x.batch 1 = x.batch by omega]
    have : MAXU + 1 = W := rfl
    omega
  rw [if_neg (by omega), if_neg hfit]; rfl

theorem pickBw_oneSample {gys gxs : Shape} {ids : List Nat} {dim : Nat} {m : Moves} (hy : WF gys) (hx : WF gxs)
    (hbx : gxs.batch = 1) (h : pickBw gys gxs ids dim = .ok m) {id : Nat} (hid : id ∈ ids) :
    pickBw (oneSample gys) gxs [id] dim =
      .ok (pickMoves 1 0 0 (lo gxs dim) (lo gxs dim * gxs.get dim) (up gxs dim) [id]).swap := by
  obtain ⟨sy, h1, h⟩ := bind_ok.mp h
  have ⟨he, _⟩ := ite_ok h
  obtain ⟨_, hids, r, hr, rfl⟩ := pick_inv h1
  have e : (oneSample gys).eq { r with batch := max gxs.batch 1 } = true := by
    have := eq_oneSample (eq_true_of_not_bnot he)
    rw [hbx]; exact this
  have ⟨m1, hm1⟩ : ∃ m1, pickBw (oneSample gys) gxs [id] dim = .ok m1 := by
    unfold pickBw
    rw [pick_single hx hr (hids id hid)]
    simp only [bind, Except.bind, e]
    exact ⟨_, rfl⟩
  obtain ⟨_, _, _, _, _, _, e1, _, _⟩ := pickBw_plan (oneSample_wf hy) hx (by simp) hm1
  rw [hm1, e1, hbx]
  simp [b2n]

theorem batchPickBw_oneSample {gys gxs : Shape} {ids : List Nat} {m : Moves} (hx : WF gxs)
    (h : batchPickBw gys gxs ids = .ok m) {id : Nat} (hid : id ∈ ids) :
    ∃ m1, batchPickBw (oneSample gys) gxs [id] = .ok m1 ∧
      m1 = (batchPickMoves 1 gxs.volume [id]).swap := by
  obtain ⟨sy, h1, h⟩ := bind_ok.mp h
  have ⟨he, _⟩ := ite_ok h
  have he' := eq_true_of_not_bnot he
  have ⟨_, hids, _, _, hd, hv⟩ := batchPick_ok hx h1
  have hb : ShapeOps.batchPick gxs [id] = .ok { gxs with batch := 1 } := by
    unfold ShapeOps.batchPick
    simp only [List.length_singleton, Nat.one_mod_eq_one.mpr (by decide : W ≠ 1)]
    have h2 : ¬ ([id].any fun i => decide (i ≥ gxs.batch)) = true := by
      have := hids id hid; simp; omega
    rw [if_neg (by omega), if_neg h2]
    unfold Shape.resizeBatch Shape.updateBatch
    have : ¬ gxs.volume * 1 > MAXU := by
      have := hx.vol_lt; have : MAXU + 1 = W := rfl; omega
    rw [if_neg (by omega), if_neg this]; rfl
  have e : (oneSample gys).eq { gxs with batch := 1 } = true := by
    have := eq_oneSample he'
    rwa [show oneSample sy = { gxs with batch := 1 } by unfold oneSample; rw [hd, hv]] at this
  unfold batchPickBw
  simp only [hb, bind, Except.bind, e]
  exact ⟨_, rfl, rfl⟩

theorem batchSliceBw_oneSample {sy sx : Shape} {offset b : Nat} {m : Moves} (hy : WF sy) (hx : WF sx)
    (h : batchSliceBw sy sx offset = .ok m) (hb : b < sy.batch) :
    batchSliceBw (oneSample sy) sx (offset + b) = .ok (batchSliceBwMoves sx.volume 1 (offset + b)) := by
  obtain ⟨_, hg, hv, _, _, _⟩ := batchSliceBw_plan hy hx h
  have ⟨hc, _⟩ := ite_ok h
  simp only [Bool.or_eq_true, not_or] at hc
  have c1 : (oneSample sy).hasSameDims sx = true := eq_true_of_not_bnot hc.1
  have c2 : sliceBwGuard (oneSample sy).batch sx.batch (offset + b) = false :=
    (sliceBwGuard_iff hx.batch_lt).mpr (by show offset + b + 1 ≤ sx.batch; omega)
  unfold batchSliceBw batchSliceBwWith
  rw [c1, c2, ← hv]
  rfl

end Primitiv.Move.Front
