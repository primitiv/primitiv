import PrimitivModel.Props.C11.Move
import PrimitivModel.Lemmas.Adjoint
/-
C01 (kernel level) — each backward kernel of the family is the transpose of its
forward kernel: for every upstream gradient `gy`, every `x` and a zero initial
`gx`,   Σ_j (bw gy 0)_j * x_j  =  Σ_i gy_i * (fw x)_i   over any commutative
semiring (so over ℝ), for all well-formed shapes, axis arguments and ids the
front-ends accept.  Together with "bw ADDs into gx" (`scatterAdd_zero_split`:
the result is `gx + bw gy 0`) this is the chain rule for a linear map.
Three routes, all in Lemmas/Adjoint.lean: bw runs through the (output, input)
index pairs of fw (`adjoint_of_same_idx`: slice, batch_slice), or through the
same loop nest with the two index maps exchanged (`adjoint_swap`: pick,
batch_pick, permute_dims); flip and transpose are their own kind of nest
backwards, so both sides are evaluated element by element (`writesOnce_apply`) and the
sums matched by the involution (`sum_reindex`); max / min: `select_adjoint`.
-/
namespace Primitiv.C01.Move
open Primitiv Primitiv.Move Primitiv.MoveShape Primitiv.View3 Finset

variable {R : Type} [CommSemiring R]

def zeroT (s : Shape) : Tensor R := ⟨s, fun _ => 0, .here⟩

theorem Adjoint.pick {x y gy g : Tensor R} {ids : List Nat} {dim : Nat} {raw : Nat → R} (hx : WF x.shape)
    (hlen : ids.length < W) (hf : pickFw x ids dim raw = .ok y)
    (hb : pickBw gy ids dim (zeroT x.shape) = .ok g) (hgy : gy.shape = y.shape) :
    ∑ j ∈ range x.shape.size, g.data j * x.data j = ∑ i ∈ range y.shape.size, gy.data i * y.data i := by
  obtain ⟨_, ys, m, hF, hfb, hall, rfl⟩ := pickFw_inv hf
  obtain ⟨_, _, mb, hB, _, rfl⟩ := pickBw_inv hb
  obtain ⟨_, _, _, _, hys, _, _, hm, _, _⟩ := Front.pickFw_plan hx hlen hF
  obtain ⟨_, _, _, _, _, _, hmb, _, _⟩ := Front.pickBw_plan (by rw [hgy]; exact hys) hx hlen hB
  rw [hmb, ← hm]
  exact adjoint_swap m gy.data x.data raw hfb hall (C11.Move.Kernel.pick_fw_writes_all hx hlen hF).2

-- an instance of the hypotheses: x = [[1,4,7],[2,5,8],[3,6,9]], ids = [1, 2] along axis 1, gy = ((1,2,3),(4,5,6))
example : (match pickBw (α := Int) ⟨⟨[3], 2, 3⟩, fun i => i + 1, .here⟩ [1, 2] 1 ⟨⟨[3, 3], 1, 9⟩, fun _ => 0, .here⟩ with
    | .ok g => (List.range 9).map g.data | .error _ => []) = [0, 0, 0, 1, 2, 3, 4, 5, 6] := by decide

theorem Adjoint.batch_pick {x y gy g : Tensor R} {ids : List Nat} {raw : Nat → R} (hx : WF x.shape)
    (hlen : ids.length < W) (hf : batchPickFw x ids raw = .ok y)
    (hb : batchPickBw gy ids (zeroT x.shape) = .ok g) (hgy : gy.shape = y.shape) :
    ∑ j ∈ range x.shape.size, g.data j * x.data j = ∑ i ∈ range y.shape.size, gy.data i * y.data i := by
  obtain ⟨_, ys, m, hF, hfb, hall, rfl⟩ := batchPickFw_inv hf
  obtain ⟨_, _, mb, hB, _, rfl⟩ := batchPickBw_inv hb
  obtain ⟨_, _, hys, _, _, hm, _, _⟩ := Front.batchPickFw_plan hx hlen hF
  obtain ⟨_, _, _, _, hmb, _, _⟩ := Front.batchPickBw_plan (by rw [hgy]; exact hys) hx hlen hB
  rw [hmb, ← hm]
  exact adjoint_swap m gy.data x.data raw hfb hall (C11.Move.Kernel.batch_pick_fw_in_bounds hx hlen hF).2.2.2

theorem Adjoint.batch_slice {x y gy g : Tensor R} {lower upper : Nat} {raw : Nat → R} (hx : WF x.shape)
    (hf : batchSliceFw x lower upper raw = .ok y)
    (hb : batchSliceBw gy lower (zeroT x.shape) = .ok g) (hgy : gy.shape = y.shape) :
    ∑ j ∈ range x.shape.size, g.data j * x.data j = ∑ i ∈ range y.shape.size, gy.data i * y.data i := by
  obtain ⟨_, ys, m, hF, hfb, hall, rfl⟩ := fw_inv hf
  obtain ⟨_, _, mb, hB, _, rfl⟩ := bw_inv hb
  obtain ⟨hl, hu, hys, hyb, _, hm, _, hysz⟩ := Front.batchSliceFw_plan hx hF
  have hgyw : WF gy.shape := by rw [hgy]; exact hys
  obtain ⟨_, _, _, hmb, _, _⟩ := Front.batchSliceBw_plan hgyw hx hB
  have hgb : gy.shape.batch = upper - lower := by rw [hgy]; exact hyb
  have hmul : mul32 x.shape.volume lower = x.shape.volume * lower :=
    Nat.mod_eq_of_lt (off_fits (nx := x.shape.batch) (by omega) Nat.one_pos (by rw [Nat.mul_one]; exact hx.fits))
  refine adjoint_of_same_idx m mb gy.data x.data raw x.shape.size ys.size ?_ ?_ ?_ hfb hall
    (C11.Move.Kernel.batch_slice_fw_in_bounds hx hF).2.2
  · rw [hmb, hm, hgb]; rfl
  · intro t _; rw [hmb, hm]; rfl
  · intro t _; rw [hmb, hm]; simp only [batchSliceBwMoves, batchSliceFwMoves, hmul]

/-- operands with the same minibatch size; the folding into a batch-1 `gx` is C03 -/
theorem Adjoint.slice {x y gy g : Tensor R} {dim lower upper : Nat} {raw : Nat → R} (hx : WF x.shape)
    (hf : sliceFw x dim lower upper raw = .ok y)
    (hb : sliceBw gy dim lower (zeroT x.shape) = .ok g) (hgy : gy.shape = y.shape) :
    ∑ j ∈ range x.shape.size, g.data j * x.data j = ∑ i ∈ range y.shape.size, gy.data i * y.data i := by
  obtain ⟨_, ys, m, hF, hfb, hall, rfl⟩ := fw_inv hf
  obtain ⟨_, hb⟩ := guarded_ok (xs := [gy, zeroT x.shape]).mp hb
  obtain ⟨p, hB, hb⟩ := bind_ok.mp hb
  obtain ⟨_, rfl⟩ := runAdd_inv hb
  obtain ⟨hl, hu, hys, hyb, hyg, hm, _, hysz⟩ := Front.sliceFw_plan hx hF
  have hgyw : WF gy.shape := by rw [hgy]; exact hys
  have hgb : gy.shape.batch = x.shape.batch := by rw [hgy]; exact hyb
  have hgd : gy.shape.get dim = upper - lower := by rw [hgy, hyg dim, if_pos rfl]
  obtain ⟨_, _, _, _, _, hp⟩ := Front.sliceBw_plan hgyw hx hB
  have hon := (C11.Move.Kernel.slice_fw_writes_all hx hF).2
  have hoffW : lo x.shape dim * lower < W :=
    off_fits (nx := x.shape.get dim) (by omega) (up_pos hx dim) (by rw [← (hx.toView dim).volume]; exact hx.vol_lt)
  subst hm
  rcases hp with ⟨_, hy1, hx1, h0, rfl⟩ | ⟨_, rfl⟩
  · -- the axis is at or beyond the depth: inplace_add, and slice_fw copies everything
    have hny : upper - lower = 1 := by omega
    have ⟨c, hidx⟩ := inplaceAdd_same_idx (V := lo x.shape dim * up x.shape dim) (B := x.shape.batch)
    have hcnt : (sliceFwMoves (lo x.shape dim) (lo x.shape dim * (upper - lower)) (lo x.shape dim * x.shape.get dim)
        (up x.shape dim * x.shape.batch) lower).count = lo x.shape dim * up x.shape dim * x.shape.batch := by
      simp only [sliceFwMoves, hny]; ring
    simp only [Front.SliceBwPlan.moves, hgb, Nat.max_self]
    refine adjoint_of_same_idx _ _ gy.data x.data raw x.shape.size ys.size (by rw [c, hcnt])
      (fun t ht => (hidx t (hcnt ▸ ht)).1) (fun t ht => ?_) hfb hall hon
    rw [(hidx t (hcnt ▸ ht)).2, hny, hx1, h0]
    exact sliceFw_unit_axis.symm
  · have ⟨c, hidx⟩ := sliceBw_same_idx (L := lo x.shape dim) (ny := upper - lower) (nx := x.shape.get dim)
      (U := up x.shape dim) (B := x.shape.batch) (off := lower) hoffW
    simp only [Front.SliceBwPlan.moves, hgb, hgd, Nat.max_self]
    exact adjoint_of_same_idx _ _ gy.data x.data raw x.shape.size ys.size c (fun t ht => (hidx t ht).1)
      (fun t ht => (hidx t ht).2) hfb hall hon

theorem Adjoint.flip {x y gy g : Tensor R} {dim : Nat} {raw : Nat → R} (hx : WF x.shape)
    (hf : flipFw x dim raw = .ok y) (hb : flipBw gy dim (zeroT x.shape) = .ok g) (hgy : gy.shape = x.shape) :
    ∑ j ∈ range x.shape.size, g.data j * x.data j = ∑ i ∈ range y.shape.size, gy.data i * y.data i := by
  obtain ⟨_, ys, m, hF, _, _, rfl⟩ := fw_inv hf
  obtain ⟨_, _, mb, hB, _, rfl⟩ := bw_inv hb
  obtain ⟨rfl, rfl, hxs⟩ := Front.flipFw_plan hx hF
  obtain ⟨_, _, rfl, _⟩ := Front.flipBw_plan (by rw [hgy]; exact hx) hx hB
  have hL := lo_pos hx dim
  have hn := hx.pos dim
  have hon := (flip_writes (L := lo x.shape dim) (n := x.shape.get dim) (R := up x.shape dim * x.shape.batch)).2
  simp only [zeroT]
  rw [hxs]
  -- both kernels move the element at `flipMap i` to `i`
  have hval := fun i hi => writesOnce_apply hon (fun i hi => flip_step_of hL hn hi) x.data raw gy.data (i := i) hi
  refine sum_reindex _ (flipMap (lo x.shape dim) (x.shape.get dim)) (flipMap (lo x.shape dim) (x.shape.get dim)) _ _
    (fun i hi => flipMap_lt hL hn hi) (fun i hi => flipMap_lt hL hn hi) (fun i _ => flipMap_invol hL hn)
    (fun i _ => flipMap_invol hL hn) fun i hi => ?_
  rw [(hval i hi).2, (hval _ (flipMap_lt hL hn hi)).1, flipMap_invol hL hn]

/-- transpose_bw (Naive: `inplace_add(transpose_fw(gy), gx)`) is the transpose of transpose_fw -/
theorem Adjoint.transpose {x y gy g : Tensor R} {raw raw' : Nat → R} (hx : WF x.shape) (hgyw : WF gy.shape)
    (hf : transposeFw x raw = .ok y) (hb : transposeBw x y gy (zeroT x.shape) raw' = .ok g) :
    ∑ j ∈ range x.shape.size, g.data j * x.data j = ∑ i ∈ range y.shape.size, gy.data i * y.data i := by
  obtain ⟨_, hb⟩ := guarded_ok (xs := [x, y, gy, zeroT x.shape]).mp hb
  obtain ⟨_, hG, hb⟩ := bind_ok.mp hb
  obtain ⟨tg, hT, hb⟩ := bind_ok.mp hb
  obtain ⟨_, rfl⟩ := runAdd_inv hb
  obtain ⟨_, _, ⟨hge, hbe⟩, _⟩ := Front.transposeBwGuard_plan hx hG
  obtain ⟨_, ys, m, hF, _, _, rfl⟩ := fw_inv hf
  obtain ⟨_, ts, mt, hFt, _, _, rfl⟩ := fw_inv hT
  obtain ⟨hmx, hys, hyb, g0, g1, g2, rfl, hxs, hysz⟩ := Front.transposeFw_plan hx hF
  simp only at hge hbe
  obtain ⟨_, hts, htb, _, _, _, rfl, _, _⟩ := Front.transposeFw_plan hgyw hFt
  have e0 : gy.shape.get 0 = x.shape.get 1 := by rw [← hge, g0]
  have e1 : gy.shape.get 1 = x.shape.get 0 := by rw [← hge, g1]
  have eb : gy.shape.batch = x.shape.batch := by rw [← hbe, hyb]
  have h1 := hx.pos 0
  have h2 := hx.pos 1
  -- every extent, sample count and stride in terms of `x.get 0`, `x.get 1`, `x.batch`
  simp only [zeroT, Front.b2n_hasBatch x.shape hx, Front.b2n_hasBatch ts hts, htb, eb, e0, e1,
    Front.matrix_volume hx hmx, Nat.max_self] at *
  have ⟨cI, hI⟩ := inplaceAdd_same_idx (V := x.shape.get 0 * x.shape.get 1) (B := x.shape.batch)
  rw [hxs, hysz]
  have hN : x.shape.get 1 * x.shape.get 0 * x.shape.batch = x.shape.get 0 * x.shape.get 1 * x.shape.batch := by ring
  -- a transposition writes `o` at the step whose number is the transposed position of `o`
  have hstep : ∀ {d1 d2 : Nat}, 0 < d1 → 0 < d2 → ∀ o, o < d1 * d2 * x.shape.batch →
      ∃ t, t < (transposeMoves d1 d2 x.shape.batch).count ∧ (transposeMoves d1 d2 x.shape.batch).didx t = o ∧
        (transposeMoves d1 d2 x.shape.batch).sidx t = (transposeMoves d2 d1 x.shape.batch).didx o := by
    intro d1 d2 h1 h2 o ho
    refine ⟨_, ?_, transpose_didx_invol h2 h1, rfl⟩
    have := transpose_didx_lt (d1 := d2) (d2 := d1) (by rw [Nat.mul_comm d2]; exact ho)
    simp only [transposeMoves] at this ⊢
    calc _ < d2 * d1 * x.shape.batch := this
      _ = _ := by ring
  refine sum_reindex _ (transposeMoves (x.shape.get 0) (x.shape.get 1) x.shape.batch).didx
    (transposeMoves (x.shape.get 1) (x.shape.get 0) x.shape.batch).didx _ _ (fun i hi => transpose_didx_lt hi)
    (fun i hi => by rw [← hN] at hi ⊢; exact transpose_didx_lt hi) (fun i _ => transpose_didx_invol h1 h2)
    (fun i _ => transpose_didx_invol h2 h1) fun j hj => ?_
  -- `inplace_add` between equal minibatch sizes adds element `j` to element `j`
  rw [(writesOnce_apply (φ := id) inplaceAdd_writesOnce (fun i hi => ⟨i, by rw [cI]; exact hi, (hI i hi).2, (hI i hi).1⟩) x.data raw _ hj).2,
    (writesOnce_apply (transpose_writes _ _ _).2 (hstep h2 h1) gy.data raw' gy.data (hN ▸ hj)).1,
    (writesOnce_apply (transpose_writes _ _ _).2 (hstep h1 h2) x.data raw gy.data (transpose_didx_lt hj)).1,
    transpose_didx_invol h1 h2]
  rfl

/-- max_bw (and min_bw, which is the same code): with `am i` the first position
along the axis where `x` equals `y[i]` — the position of the extremum when
`y = max_fw x`, and the only one under the hypothesis that the extremum is
attained once — the backward kernel is the transpose of the selection
`dx ↦ (i ↦ dx[off i (am i)])`, which is the derivative of `max` along the axis at
such an `x`. -/
theorem Adjoint.max [DecidableEq R] {x y gy g : Tensor R} {dim : Nat} (hx : WF x.shape) (hy : WF y.shape)
    (hgyw : WF gy.shape) (hb : maxBw x y gy dim (zeroT x.shape) = .ok g) (am : Nat → Nat)
    (ham : ∀ i, i < y.shape.size → am i < x.shape.get dim ∧
      x.data (axisOff (lo x.shape dim) (lo x.shape dim * x.shape.get dim) i (am i)) = y.data i ∧
      ∀ j, j < am i → x.data (axisOff (lo x.shape dim) (lo x.shape dim * x.shape.get dim) i j) ≠ y.data i)
    (dx : Nat → R) :
    ∑ o ∈ range x.shape.size, g.data o * dx o =
      ∑ i ∈ range y.shape.size, gy.data i * dx (axisOff (lo x.shape dim) (lo x.shape dim * x.shape.get dim) i (am i)) := by
  obtain ⟨_, hb⟩ := guarded_ok (xs := [x, y, gy, zeroT x.shape]).mp hb
  obtain ⟨r, hF, hb⟩ := bind_ok.mp hb
  split at hb
  · cases hb
  cases hb
  obtain ⟨_, _, _, rfl, hxs, _, hys, _⟩ := Front.maxBw_plan hx hy hgyw hx hF
  simp only [zeroT]
  have hbnd := axisReduce_bounds (L := lo x.shape dim) (n := x.shape.get dim) (R := up x.shape dim * x.shape.batch) (lo_pos hx dim)
  rw [hxs, select_adjoint _ _ _ _ _ _ hbnd, hys]
  apply sum_congr rfl
  intro i hi
  have hi' : i < y.shape.size := by rw [hys]; exact mem_range.mp hi
  obtain ⟨h1, h2, h3⟩ := ham i hi'
  simp only [axisReduce]
  rw [firstEq_eq_some _ _ _ _ _ h1 h2 h3]

theorem Adjoint.min [DecidableEq R] {x y gy g : Tensor R} {dim : Nat} (hx : WF x.shape) (hy : WF y.shape)
    (hgyw : WF gy.shape) (hb : minBw x y gy dim (zeroT x.shape) = .ok g) (am : Nat → Nat)
    (ham : ∀ i, i < y.shape.size → am i < x.shape.get dim ∧
      x.data (axisOff (lo x.shape dim) (lo x.shape dim * x.shape.get dim) i (am i)) = y.data i ∧
      ∀ j, j < am i → x.data (axisOff (lo x.shape dim) (lo x.shape dim * x.shape.get dim) i j) ≠ y.data i)
    (dx : Nat → R) :
    ∑ o ∈ range x.shape.size, g.data o * dx o =
      ∑ i ∈ range y.shape.size, gy.data i * dx (axisOff (lo x.shape dim) (lo x.shape dim * x.shape.get dim) i (am i)) :=
  Adjoint.max hx hy hgyw hb am ham dx

theorem Adjoint.permute_dims {x y gy g : Tensor R} {perm : List Nat} {raw : Nat → R} (hx : WF x.shape)
    (hgyw : WF gy.shape) (hf : permuteFw x perm raw = .ok y)
    (hb : permuteBw x y gy perm (zeroT x.shape) = .ok g) :
    ∑ j ∈ range x.shape.size, g.data j * x.data j = ∑ i ∈ range y.shape.size, gy.data i * y.data i := by
  obtain ⟨_, ys, m, hF, _, _, rfl⟩ := fw_inv hf
  obtain ⟨_, hb⟩ := guarded_ok (xs := [x, _, gy, zeroT x.shape]).mp hb
  obtain ⟨mb, hB, hb⟩ := bind_ok.mp hb
  obtain ⟨_, rfl⟩ := runAdd_inv hb
  have hys : WF ys := (permuteFw_plan hx hF).2.2.2.1
  obtain ⟨m', hF', rfl, _, _⟩ := permuteBw_plan hx hys hgyw hx hB
  have : m' = m := by
    have := hF.symm.trans hF'
    simp only [Except.ok.injEq, Prod.mk.injEq, true_and] at this
    exact this.symm
  subst this
  obtain ⟨hb1, hw, ho⟩ := C11.Move.Kernel.permute_dims_fw_in_bounds hx hF
  exact adjoint_swap m' gy.data x.data raw hb1 hw ho

end Primitiv.C01.Move
