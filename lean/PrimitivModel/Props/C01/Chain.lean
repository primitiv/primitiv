import PrimitivModel.Lemmas.GraphTangent
import PrimitivModel.Props.C01.Arith
/-!
C01: the multivariate chain rule over the DAG — the parameter gradients that
`Graph::backward` accumulates are the derivative of the function the graph computes.

`Props/C01/Sweep.lean` (`backward_adjoint`) shows that the reverse sweep is the transpose of *any*
assignment of tangents that obeys the local adjoint law.  This file supplies the link from tangents to
derivatives, over `R = ℝ`, in curve (directional derivative) form, which needs no norm on tensors
`Vec ℝ = Nat → ℝ` (only the first `size` entries of a tensor matter): states `S ε` of ONE graph whose
parameter values move along a curve, and per operator a Jacobian-vector product with the curve law and the
adjoint law (definitions and the induction: Lemmas/GraphTangent.lean).  The two laws are shown here for
elementwise unary operators with a backward formula in the sense of `IsBackwardOf` (Props/C01/Arith.lean;
instance: the generated tanh kernels) and for the elementwise product; Props/C01/ChainOps.lean and
ChainSoftmax.lean continue.
-/
namespace Primitiv.Graph
open Finset

/-- **Chain rule over the DAG, forward mode.**
Let `S ε` be states of one graph (`hshape`: kinds, arguments and sizes as in `S 0`; `hargsBelow`:
arguments refer to smaller operator ids) such that for every operator `k` that is the target's
operator or an ancestor of it:
* if `k` is a Parameter operator of `p`, the components (below the node's size) of the value of `p`
  in `S ε` are differentiable in `ε` at 0 with derivative `δ p`;
* if `k` is a random source, its value does not depend on `ε`;
* otherwise `k` is consistently evaluated in every `S ε` (`LocalEq`: arguments have values `xs`,
  `sem.fwd xs = some ys`, and the stored return values are `ys`), and its semantics obeys the curve
  law at the argument values stored in `S 0` with Jacobian-vector product `J k`.
Then for every node `b` of these operators and every `i` below its size, `ε ↦ value of b in S ε`
at `i` is differentiable at 0 with derivative the forward-mode tangent `fwdTangent (S 0) δ J b i`
(Parameter: `δ p`; random: 0; operator: `J k` of the argument values and argument tangents). -/
theorem tangent_isDeriv (S : ℝ → State (Vec ℝ)) (a : Addr) (δ : Nat → Vec ℝ) (J : Nat → Jvp)
    (hshape : ∀ ε, (S ε).shape = (S 0).shape)
    (hargsBelow : ArgsBelow (S 0))
    (hparamCurve : ∀ (k : Nat) (o : OpInfo (Vec ℝ)) (p : Nat), Anc (S 0).argsOf k a.oid →
      (S 0).ops[k]? = some o → o.kind = .param p → ∀ i, i < (S 0).sizeAt ⟨k, 0⟩ →
        HasDerivAt (fun ε => (S ε).params.value p i) (δ p i) 0)
    (hrnd : ∀ (k : Nat) (o : OpInfo (Vec ℝ)), Anc (S 0).argsOf k a.oid → (S 0).ops[k]? = some o →
      o.kind = .rnd → ∀ j ε, (S ε).valueOf? ⟨k, j⟩ = (S 0).valueOf? ⟨k, j⟩)
    (hloc : ∀ (k : Nat) (o : OpInfo (Vec ℝ)) (sem : OpSem (Vec ℝ)), Anc (S 0).argsOf k a.oid →
      (S 0).ops[k]? = some o → o.kind = .op sem → ∀ ε, LocalEq (S ε) k)
    (hcurve : ∀ (k : Nat) (o : OpInfo (Vec ℝ)) (sem : OpSem (Vec ℝ)), Anc (S 0).argsOf k a.oid →
      (S 0).ops[k]? = some o → o.kind = .op sem →
        CurveLawAt sem (o.args.map (S 0).sizeAt) (o.rets.map (·.size)) (J k) (o.args.map (S 0).valAt)) :
    ∀ b : Addr, Anc (S 0).argsOf b.oid a.oid → ∀ i, i < (S 0).sizeAt b →
      HasDerivAt (fun ε => (S ε).valAt b i) (fwdTangent (S 0) δ J b i) 0 :=
  fun b hb i hi => tangent_hasDerivAt ⟨hshape, hargsBelow, hparamCurve, hrnd, hloc, hcurve⟩ b hb i hi

/-- **`backward` computes the gradient.**
Let `S ε` be states of one graph as in `tangent_isDeriv`, with `S 0` satisfying the structural
hypotheses of `backward_adjoint` (arguments exist and have smaller ids, all node gradients invalid,
the target exists, every ancestor evaluated), every Parameter ancestor of `p` having `p < P` and one
return value of size `psize p`, the value of every `p < P` moving with velocity `δ p` at `ε = 0`,
and every other non-random ancestor `k` obeying the curve law and the adjoint law (`sem.bwd` is the
transpose of `J k`) at the values stored in `S 0`.
Then `backward (S 0) a` succeeds, changes only gradients (`SameFrame`), leaves all node gradients
invalid, and the sum of all elements of the target is differentiable along the family with
`d/dε Σ_{i<size a} value(a)_i |_{ε=0} = Σ_{p<P} ⟪grad' p − grad p, δ p⟫`:
the increments of the parameter gradients are the gradient of the summed target. -/
theorem backward_is_gradient (S : ℝ → State (Vec ℝ)) (a : Addr) (P : Nat) (psize : Nat → Nat)
    (δ : Nat → Vec ℝ) (J : Nat → Jvp)
    (hshape : ∀ ε, (S ε).shape = (S 0).shape)
    (hargsBelow : ArgsBelow (S 0))
    (hargsValid : ∀ (i : Nat) (o : OpInfo (Vec ℝ)), (S 0).ops[i]? = some o → ∀ b ∈ o.args, (S 0).validAddr b = true)
    (hgradsInvalid : AllGradsInvalid (S 0))
    (htarget : (S 0).validAddr a = true)
    (hevaluated : ∀ (i : Nat) (o : OpInfo (Vec ℝ)), Anc (S 0).argsOf i a.oid → (S 0).ops[i]? = some o →
      (∀ b ∈ o.args, ((S 0).valueOf? b).isSome = true) ∧
      ((∀ p, o.kind ≠ .param p) → ∀ n ∈ o.rets, n.value.isSome = true))
    (hparam : ∀ (i : Nat) (o : OpInfo (Vec ℝ)) (p : Nat), Anc (S 0).argsOf i a.oid → (S 0).ops[i]? = some o →
      o.kind = .param p → p < P ∧ o.rets.map (·.size) = [psize p])
    (hparamCurve : ∀ p, p < P → ∀ i, i < psize p → HasDerivAt (fun ε => (S ε).params.value p i) (δ p i) 0)
    (hrnd : ∀ (k : Nat) (o : OpInfo (Vec ℝ)), Anc (S 0).argsOf k a.oid → (S 0).ops[k]? = some o →
      o.kind = .rnd → ∀ j ε, (S ε).valueOf? ⟨k, j⟩ = (S 0).valueOf? ⟨k, j⟩)
    (hloc : ∀ (k : Nat) (o : OpInfo (Vec ℝ)) (sem : OpSem (Vec ℝ)), Anc (S 0).argsOf k a.oid →
      (S 0).ops[k]? = some o → o.kind = .op sem → ∀ ε, LocalEq (S ε) k)
    (hcurve : ∀ (k : Nat) (o : OpInfo (Vec ℝ)) (sem : OpSem (Vec ℝ)), Anc (S 0).argsOf k a.oid →
      (S 0).ops[k]? = some o → o.kind = .op sem →
        CurveLawAt sem (o.args.map (S 0).sizeAt) (o.rets.map (·.size)) (J k) (o.args.map (S 0).valAt))
    (hadj : ∀ (k : Nat) (o : OpInfo (Vec ℝ)) (sem : OpSem (Vec ℝ)), Anc (S 0).argsOf k a.oid →
      (S 0).ops[k]? = some o → o.kind = .op sem →
        AdjointLawAt sem (o.args.map (S 0).sizeAt) (o.rets.map (·.size)) (J k) (o.args.map (S 0).valAt) o.ys) :
    ∃ s', backward (TVec ℝ) (S 0) a = (s', .ok ()) ∧ SameFrame (S 0) s' ∧ AllGradsInvalid s' ∧
      HasDerivAt (fun ε => ∑ i ∈ range ((S 0).sizeAt a), (S ε).valAt a i)
        (∑ p ∈ range P, dot (psize p) (fun i => s'.params.grad p i - (S 0).params.grad p i) (δ p)) 0 := by
  have H := chain_adjointHyps (S 0) a P psize δ J hargsBelow hargsValid hgradsInvalid htarget hevaluated
    hparam hadj
  obtain ⟨s', hb, hf, hg, hsum⟩ := backward_adjoint_of_hyps (S 0) a P psize δ _ H
  refine ⟨s', hb, hf, hg, hsum ▸ target_sum_hasDerivAt ⟨hshape, hargsBelow, ?_, hrnd, hloc, hcurve⟩⟩
  intro k o p ha ho hk i hi
  obtain ⟨hp, hs⟩ := hparam k o p ha ho hk
  rw [sizeAt_eq_getD ho, hs] at hi
  exact hparamCurve p hp i hi

/-- **End to end: `forward` at every `ε`, `backward` at `ε = 0`.**
Let `s` be a well-formed graph state (`WF`, the invariant of reachable states, Props/C05.lean) without
memoised values and with all node gradients invalid, `a` one of its nodes, `Θ ε` parameter values
for every `ε`, and suppose `forward` of `a` on `s` with the parameter values `Θ ε` succeeds for every
`ε`, reaching the state `S ε`.  If every Parameter ancestor of `p` has `p < P` and one return value
of size `psize p`, `ε ↦ Θ ε p i` has derivative `δ p i` at 0 (`p < P`, `i < psize p`), and every
non-random operator ancestor obeys the curve law and the adjoint law at the argument values that
`forward` stored at `ε = 0` (and its own results `ys`), then `backward` of `a` on the un-evaluated
graph with parameter values `Θ 0` succeeds — it is the sweep on `S 0` — and
`d/dε Σ_{i<size a} (forward value of a at Θ ε)_i |_{ε=0} = Σ_{p<P} ⟪grad' p − grad p, δ p⟫`. -/
theorem backward_is_gradient_of_forward (s : State (Vec ℝ)) (a : Addr) (Θ : ℝ → Nat → Vec ℝ)
    (S : ℝ → State (Vec ℝ)) (P : Nat) (psize : Nat → Nat) (δ : Nat → Vec ℝ) (J : Nat → Jvp)
    (hwf : WF s) (hfresh : ∀ k, ¬ s.evaluated k) (hgradsInvalid : AllGradsInvalid s)
    (htarget : s.validAddr a = true)
    (hrun : ∀ ε, ∃ v, forward (TVec ℝ) (s.withPValue (Θ ε)) a = (S ε, .ok v))
    (hparam : ∀ (i : Nat) (o : OpInfo (Vec ℝ)) (p : Nat), Anc s.argsOf i a.oid → s.ops[i]? = some o →
      o.kind = .param p → p < P ∧ o.rets.map (·.size) = [psize p])
    (hΘ : ∀ p, p < P → ∀ i, i < psize p → HasDerivAt (fun ε => Θ ε p i) (δ p i) 0)
    (hcurve : ∀ (k : Nat) (o : OpInfo (Vec ℝ)) (sem : OpSem (Vec ℝ)), Anc s.argsOf k a.oid →
      s.ops[k]? = some o → o.kind = .op sem →
        CurveLawAt sem (o.args.map s.sizeAt) (o.rets.map (·.size)) (J k) (o.args.map (S 0).valAt))
    (hadj : ∀ (k : Nat) (o : OpInfo (Vec ℝ)) (sem : OpSem (Vec ℝ)), Anc s.argsOf k a.oid →
      s.ops[k]? = some o → o.kind = .op sem → ∀ ys, sem.fwd (o.args.map (S 0).valAt) = some ys →
        AdjointLawAt sem (o.args.map s.sizeAt) (o.rets.map (·.size)) (J k) (o.args.map (S 0).valAt)
          (ys.take o.rets.length)) :
    ∃ s', backward (TVec ℝ) (s.withPValue (Θ 0)) a = (s', .ok ()) ∧
      backward (TVec ℝ) (S 0) a = (s', .ok ()) ∧ SameFrame (S 0) s' ∧ AllGradsInvalid s' ∧
      HasDerivAt (fun ε => ∑ i ∈ range (s.sizeAt a), (S ε).valAt a i)
        (∑ p ∈ range P, dot (psize p) (fun i => s'.params.grad p i - s.params.grad p i) (δ p)) 0 := by
  have F := fwdFacts_of_forward s a Θ S hwf hfresh hgradsInvalid htarget hrun
  obtain ⟨CF, H⟩ := hyps_of_fwdFacts F P psize δ J hparam hΘ hcurve hadj
  obtain ⟨s', hb, hf, hg, hsum⟩ := backward_adjoint_of_hyps (S 0) a P psize δ _ H
  obtain ⟨v, hf0⟩ := hrun 0
  have hgrad : (S 0).params.grad = s.params.grad := by
    have := forward_fwdFrame (TVec ℝ) (s.withPValue (Θ 0)) a
    rw [hf0] at this
    rw [this.params]; rfl
  refine ⟨s', ?_, hb, hf, hg, ?_⟩
  · rw [backward_fresh (TVec ℝ) (s := s.withPValue (Θ 0)) htarget hfresh hf0 H.target
      (fwdPhase_of_hyps (S 0) a P psize δ _ H), hb]
  · have hd := target_sum_hasDerivAt CF
    rw [← hsum, sizeAt_of_shape (F.shape 0), hgrad] at hd
    exact hd

/-- **Curve law of an elementwise unary operator**: if the scalar function `fw` is differentiable at
the `n` argument entries `x0 i`, then `elemUnary fw bw` (`y_i = fw x_i`) is differentiable along
every curve through `[x0]`, with directional derivative `deriv fw (x0 i) · t_i`. -/
theorem unary_curveLaw (fw : ℝ → ℝ) (bw : ℝ → ℝ → ℝ → ℝ) (n : Nat) (x0 : Vec ℝ)
    (hd : ∀ i, i < n → DifferentiableAt ℝ fw (x0 i)) :
    CurveLawAt (elemUnary fw bw) [n] [n] (elemUnaryJvp fw) [x0] :=
  curveLaw_of_fwd1 (fun _ => rfl) (fun _ _ => rfl) fun x t hx0 h i hi => by
    subst hx0
    -- the inner function is given: left to unification it is found only after a long search
    exact HasDerivAt.comp (h := fun ε => x ε i) (0 : ℝ) (hd i hi).hasDerivAt (h i hi)

/-- **Adjoint law of an elementwise unary operator**: if `bw` is a backward formula of `fw` at the
argument entries (`IsBackwardOf`: with `y = fw x` it returns `gy · fw′(x)`), then the backward rule of
`elemUnary fw bw` is the transpose of its Jacobian-vector product, at the return value `fw ∘ x0`. -/
theorem unary_adjointLaw (fw : ℝ → ℝ) (bw : ℝ → ℝ → ℝ → ℝ) (n : Nat) (x0 : Vec ℝ)
    (hb : ∀ i, i < n → C01.Arith.IsBackwardOf fw bw (x0 i)) :
    AdjointLawAt (elemUnary fw bw) [n] [n] (elemUnaryJvp fw) [x0] [fun i => fw (x0 i)] :=
  adjointLaw_of_bwd1 (fun _ => rfl) (fun _ => rfl) fun g t => sum_congr rfl fun i hi => by
    obtain ⟨d, hd, hbw⟩ := hb i (mem_range.mp hi)
    show bw (x0 i) (fw (x0 i)) (g i) * t i = g i * (deriv fw (x0 i) * t i)
    rw [hbw, hd.deriv, mul_assoc]

/-- Both laws for the generated tanh kernels (forward formula and backward formula of
devices/naive/ops, interpreted over ℝ; the Eigen pair is equal to it, Props/C08): the per-operator
hypotheses of `backward_is_gradient` are consequences of the scalar facts of Props/C01/Arith.lean. -/
theorem tanh_laws (n : Nat) (x0 : Vec ℝ) :
    CurveLawAt (elemUnary (Gen.Elementwise.naive_tanh_fw Analysis.realFns) (Gen.Elementwise.naive_tanh_bw Analysis.realFns))
      [n] [n] (elemUnaryJvp (Gen.Elementwise.naive_tanh_fw Analysis.realFns)) [x0] ∧
    AdjointLawAt (elemUnary (Gen.Elementwise.naive_tanh_fw Analysis.realFns) (Gen.Elementwise.naive_tanh_bw Analysis.realFns))
      [n] [n] (elemUnaryJvp (Gen.Elementwise.naive_tanh_fw Analysis.realFns)) [x0]
      [fun i => Gen.Elementwise.naive_tanh_fw Analysis.realFns (x0 i)] := by
  have h : ∀ i, i < n → C01.Arith.IsBackwardOf (Gen.Elementwise.naive_tanh_fw Analysis.realFns)
      (Gen.Elementwise.naive_tanh_bw Analysis.realFns) (x0 i) :=
    fun i _ => (C01.Arith.Elementwise.tanh_bw_is_derivative (x0 i)).1
  exact ⟨unary_curveLaw _ _ n x0 fun i hi => let ⟨_, hd, _⟩ := h i hi; hd.differentiableAt,
    unary_adjointLaw _ _ n x0 h⟩

/-- **Curve law of the elementwise product** (product rule). -/
theorem mul_curveLaw (n : Nat) (x0 y0 : Vec ℝ) : CurveLawAt mulReal [n, n] [n] mulRealJvp [x0, y0] :=
  curveLaw_of_fwd2 (fun _ _ => rfl) (fun _ _ _ _ => rfl) fun _ _ _ _ _ _ ha hb i hi => (ha i hi).fun_mul (hb i hi)

/-- **Adjoint law of the elementwise product**: `⟪g·y, tx⟫ + ⟪g·x, ty⟫ = ⟪g, tx·y + x·ty⟫`. -/
theorem mul_adjointLaw (n : Nat) (x0 y0 : Vec ℝ) (ys : List (Vec ℝ)) :
    AdjointLawAt mulReal [n, n] [n] mulRealJvp [x0, y0] ys :=
  adjointLaw_of_bwd2 (fun _ => rfl) (fun _ _ => rfl) fun g tx ty => by
    unfold dot
    rw [← sum_add_distrib]
    exact sum_congr rfl fun i _ => by ring

/-! ### the hypotheses are satisfiable: `y = x * x`, one parameter `x = 3 + ε`, direction `δ x = 1` -/

/-- operator 0: Parameter 0 (value `3 + ε`, prior gradient 10); operator 1: `n0 * n0`, evaluated -/
noncomputable def exSqR (ε : ℝ) : State (Vec ℝ) where
  ops := [ { kind := .param 0, args := [], rets := [{ size := 1 }] },
           { kind := .op mulReal, args := [⟨0, 0⟩, ⟨0, 0⟩],
             rets := [{ size := 1, value := some fun _ => (3 + ε) * (3 + ε) }] } ]
  params := { value := fun _ _ => 3 + ε, grad := fun _ _ => 10 }
  sample := fun _ _ _ => 0

/-- all hypotheses of `backward_is_gradient` hold for this family; its conclusion, read on this
instance: `backward` succeeds and `d/dε (3+ε)² |₀ = grad' x − 10`, hence `grad' x = 16` -/
example : ∃ s', backward (TVec ℝ) (exSqR 0) ⟨1, 0⟩ = (s', .ok ()) ∧
    HasDerivAt (fun ε : ℝ => (3 + ε) * (3 + ε)) (s'.params.grad 0 0 - 10) 0 ∧ s'.params.grad 0 0 = 16 := by
  obtain ⟨s', hb, _, _, hd⟩ := backward_is_gradient exSqR ⟨1, 0⟩ 1 (fun _ => 1) (fun _ _ => 1) (fun _ => mulRealJvp)
    (fun _ => rfl) (argsBelow_of_B rfl)
    (by
      refine forall_getElem?_cons ?_ (forall_getElem?_cons ?_ forall_getElem?_nil)
      · exact fun _ hb => nomatch hb
      · intro b hb
        obtain rfl : b = ⟨0, 0⟩ := by simpa using hb
        rfl)
    (allGradsInvalid_of_B rfl) rfl
    (by
      intro i o ha; clear ha; revert i o
      refine forall_getElem?_cons ?_ (forall_getElem?_cons ?_ forall_getElem?_nil)
      · exact ⟨fun _ hb => (nomatch hb), fun h => absurd rfl (h 0)⟩
      · refine ⟨fun b hb => ?_, fun _ n hn => ?_⟩
        · obtain rfl : b = ⟨0, 0⟩ := by simpa using hb
          rfl
        · obtain rfl := List.mem_singleton.1 hn
          rfl)
    (by
      refine forall_anc <| forall_getElem?_cons ?_ <| forall_getElem?_cons ?_ forall_getElem?_nil
      · intro p hk; cases hk; exact ⟨Nat.zero_lt_one, rfl⟩
      · exact fun p hk => nomatch hk)
    (fun p _ i _ => (hasDerivAt_id' (0 : ℝ)).const_add 3)
    (by
      intro k o ha; clear ha; revert k o
      refine forall_getElem?_cons ?_ (forall_getElem?_cons ?_ forall_getElem?_nil)
      · exact fun hk => nomatch hk
      · exact fun hk => nomatch hk)
    (by
      refine forall_anc <| forall_getElem?_cons ?_ <| forall_getElem?_cons ?_ forall_getElem?_nil
      · exact fun sem hk => nomatch hk
      · intro sem hk ε o' ho'
        cases hk
        cases ho'
        refine ⟨[fun _ => 3 + ε, fun _ => 3 + ε], rfl, fun sem' hsem => ?_⟩
        cases hsem
        exact ⟨[fun _ => (3 + ε) * (3 + ε)], rfl, forall_getElem?_cons rfl forall_getElem?_nil⟩)
    (by
      refine forall_anc <| forall_getElem?_cons ?_ <| forall_getElem?_cons ?_ forall_getElem?_nil
      · exact fun sem hk => nomatch hk
      · intro sem hk; cases hk; exact mul_curveLaw 1 _ _)
    (by
      refine forall_anc <| forall_getElem?_cons ?_ <| forall_getElem?_cons ?_ forall_getElem?_nil
      · exact fun sem hk => nomatch hk
      · intro sem hk; cases hk; exact mul_adjointLaw 1 _ _ _)
  have hfun : (fun ε => ∑ i ∈ range ((exSqR 0).sizeAt ⟨1, 0⟩), (exSqR ε).valAt ⟨1, 0⟩ i)
      = fun ε : ℝ => (3 + ε) * (3 + ε) := funext fun ε => sum_range_one _
  have hval : (∑ p ∈ range 1, dot 1 (fun i => s'.params.grad p i - (exSqR 0).params.grad p i) (fun _ => (1 : ℝ)))
      = s'.params.grad 0 0 - 10 := by
    rw [sum_range_one, dot, sum_range_one, mul_one]
    rfl
  rw [hfun, hval] at hd
  refine ⟨s', hb, hd, ?_⟩
  have h1 : HasDerivAt (fun ε : ℝ => 3 + ε) 1 0 := (hasDerivAt_id' (0 : ℝ)).const_add 3
  rw [sub_eq_iff_eq_add.1 (hd.unique (h1.fun_mul h1))]
  norm_num

/-- the same graph before any evaluation (two `add_operator` calls on the empty graph) -/
noncomputable def exFresh : State (Vec ℝ) where
  ops := [ { kind := .param 0, args := [], rets := [{ size := 1 }] },
           { kind := .op mulReal, args := [⟨0, 0⟩, ⟨0, 0⟩], rets := [{ size := 1 }] } ]
  params := { value := fun _ _ => 0, grad := fun _ _ => 10 }
  sample := fun _ _ _ => 0

/-- all hypotheses of `backward_is_gradient_of_forward` hold for `exFresh` with `Θ ε x = 3 + ε`: the
states `S ε` are the results of the model's `forward`; `backward` on the un-evaluated graph at
`x = 3` succeeds and leaves `grad x = 10 + d/dε (3+ε)² |₀ = 16` -/
example : ∃ s', backward (TVec ℝ) (exFresh.withPValue fun _ _ => 3 + 0) ⟨1, 0⟩ = (s', .ok ()) ∧
    s'.params.grad 0 0 = 16 := by
  have hwf : WF exFresh := by
    have h : exFresh = run (TVec ℝ) (State.empty ⟨fun _ _ => 0, fun _ _ => 10⟩ fun _ _ _ => 0)
        [.addOperator (.param 0) [] [1], .addOperator (.op mulReal) [⟨0, 0⟩, ⟨0, 0⟩] [1]] := rfl
    rw [h]
    refine run_wf _ (WF.empty _ _) _ fun op hop => ?_
    simp only [List.mem_cons, List.not_mem_nil, or_false] at hop
    rcases hop with rfl | rfl
    · exact ⟨rfl, rfl⟩
    · exact fun _ _ h => mulReal_nret_le h
  obtain ⟨s', hb, _, _, _, hd⟩ := backward_is_gradient_of_forward exFresh ⟨1, 0⟩ (fun ε _ _ => 3 + ε)
    (fun ε => (forward (TVec ℝ) (exFresh.withPValue fun _ _ => 3 + ε) ⟨1, 0⟩).1)
    1 (fun _ => 1) (fun _ _ => 1) (fun _ => mulRealJvp) hwf
    (by
      rintro k ⟨o, ho, h⟩; revert h; revert k o
      refine forall_getElem?_cons ?_ (forall_getElem?_cons ?_ forall_getElem?_nil)
      all_goals
        rintro ⟨n, hn, hv⟩
        cases List.mem_singleton.1 hn
        cases hv)
    (allGradsInvalid_of_B rfl) rfl
    (fun ε => ⟨fun _ => (3 + ε) * (3 + ε), rfl⟩)
    (by
      refine forall_anc <| forall_getElem?_cons ?_ <| forall_getElem?_cons ?_ forall_getElem?_nil
      · intro p hk; cases hk; exact ⟨Nat.zero_lt_one, rfl⟩
      · exact fun p hk => nomatch hk)
    (fun p _ i _ => (hasDerivAt_id' (0 : ℝ)).const_add 3)
    (by
      refine forall_anc <| forall_getElem?_cons ?_ <| forall_getElem?_cons ?_ forall_getElem?_nil
      · exact fun sem hk => nomatch hk
      · intro sem hk; cases hk; exact mul_curveLaw 1 _ _)
    (by
      refine forall_anc <| forall_getElem?_cons ?_ <| forall_getElem?_cons ?_ forall_getElem?_nil
      · exact fun sem hk => nomatch hk
      · intro sem hk ys _; cases hk; exact mul_adjointLaw 1 _ _ _)
  refine ⟨s', hb, ?_⟩
  have hfun : (fun ε : ℝ => ∑ i ∈ range (exFresh.sizeAt ⟨1, 0⟩),
        ((forward (TVec ℝ) (exFresh.withPValue fun _ _ => 3 + ε) ⟨1, 0⟩).1).valAt ⟨1, 0⟩ i)
      = fun ε : ℝ => (3 + ε) * (3 + ε) := funext fun ε => sum_range_one _
  have hval : (∑ p ∈ range 1, dot 1 (fun i => s'.params.grad p i - exFresh.params.grad p i) (fun _ => (1 : ℝ)))
      = s'.params.grad 0 0 - 10 := by
    rw [sum_range_one, dot, sum_range_one, mul_one]
    rfl
  rw [hfun, hval] at hd
  have h1 : HasDerivAt (fun ε : ℝ => 3 + ε) 1 0 := (hasDerivAt_id' (0 : ℝ)).const_add 3
  rw [sub_eq_iff_eq_add.1 (hd.unique (h1.fun_mul h1))]
  norm_num

end Primitiv.Graph
