import PrimitivModel.Model.OpRules
import PrimitivModel.Gen.OpTable
/-
C01 — every operator's BACKWARD rule is the one that belongs to its FORWARD rule.

Statements over the WHOLE generated operator table (`Gen/OpTable.lean`,
rewritten from the working tree on every run), both settings of
PRIMITIV_USE_CACHE, decided by kernel evaluation of the checking functions of
`Model/OpRules.lean`.  That a backward kernel `k_bw` computes the derivative of
`k_fw` is the subject of Props/C01/{Move,Arith}.lean; here: the operator calls
the right one, with the right operands in the right order, and accumulates.
-/
namespace Primitiv.C01.Rules
open Primitiv.OpTable Primitiv.Gen.OpTable

set_option maxRecDepth 100000

/-- The checks of this file on both tables, as one kernel evaluation: the kernel caches reductions
inside one term and never across declarations, and the two tables differ in one operator. -/
theorem checks :
    (table.backwardMatchesForward = true ∧ table.compositeBackwardForms false = true ∧
      table.nopBackwardExact = true ∧ table.gradientsAccumulate = true) ∧
    (tableCache.backwardMatchesForward = true ∧ tableCache.compositeBackwardForms true = true ∧
      tableCache.nopBackwardExact = true ∧ tableCache.gradientsAccumulate = true) := by
  decide +kernel

/-- For every operator whose FORWARD is a single device kernel `k_fw` (directly or through
`functions::k<Tensor>` / the operator templates), BACKWARD is exactly
`gy[0]->device().k_bw(x…, y, gy, attributes as FORWARD passed them, gx…)` — `k_bw(gy, attributes, gx)`
for the data movement kernels — with `k_bw` the backward kernel paired with `k_fw`. -/
theorem backward_matches_forward : table.backwardMatchesForward = true := checks.1.1

theorem backward_matches_forward_cache : tableCache.backwardMatchesForward = true := checks.2.1

/-- The operators whose BACKWARD is written with functions have the expected form
(Sum ↦ broadcast, Broadcast ↦ sum, Reshape / Flatten ↦ reshape to the argument's shape,
Concat / BatchConcat ↦ slices at a running offset, Split / BatchSplit ↦ slice_bw at `i * span`,
LogSumExp ↦ exp(x − y)·gy, the two cross entropies, the scalar operators, Copy, Positive,
Negative, BatchSum), modulo the names of locals. -/
theorem composite_backward_forms :
    table.compositeBackwardForms false = true ∧ tableCache.compositeBackwardForms true = true :=
  ⟨checks.1.2.1, checks.2.2.1⟩

/-- Exactly Input, Constant, Identity, the four random sources and StopGradient have an empty
BACKWARD; Parameter's is `param_.gradient() += *gy[0]`. -/
theorem nop_backward_exact : table.nopBackwardExact = true ∧ tableCache.nopBackwardExact = true :=
  ⟨checks.1.2.2.1, checks.2.2.2.1⟩

/-- No BACKWARD body assigns a gradient: every write to `gx` accumulates. -/
theorem gradients_accumulate : table.gradientsAccumulate = true ∧ tableCache.gradientsAccumulate = true :=
  ⟨checks.1.2.2.2, checks.2.2.2.2⟩

/-- the three classes cover the table: 72 operators = 8 sources + Parameter + 23 composite + 40 kernel -/
example : table.kernelBackwardOps.length = 40 ∧ compositeBackwardOps.length = 23 ∧ table.ops.length = 72 := by decide +kernel

end Primitiv.C01.Rules
