import PrimitivModel.Lemmas.GraphTangentOps
import PrimitivModel.Props.C01.Chain
/-!
C01, the chain rule continued: operator semantics `OpSem (Vec ℝ)` that satisfy the two per-operator
hypotheses of `backward_is_gradient` (Props/C01/Chain.lean), the curve law `CurveLawAt` and the adjoint
law `AdjointLawAt`.

Elementwise unary operators come from any scalar pair with `IsBackwardOf` (Props/C01/Arith.lean), with
one instance per generated kernel pair, each on the smooth domain of its function (`tanh_laws` is in
Chain.lean).  Elementwise binary operators are taken on operands of the same size, with the generated
forward formulas and the backward formulas of the kernels (Model/KernelsArith.lean `addBw` … `powBw`, at
equal strides).  The laws hold for every operator `linOp ns ms A` given by a finite matrix, for every
`bilinOp na nb m B` given by a table of coefficients, and for operators without arguments that return
fixed values (Input, Constant, zeros, ones).  Which matrix a primitiv operator is, is written down for
sum, slice and broadcast (`sumMat`, `sliceMat`, `bcastMat`; the first two are evaluated in an `example`)
and for matmul (`matmulCoef`, one entry of a 2×2 product evaluated); for the other linear and bilinear
operators of primitiv (reshape, concat, pick, flip, permute_dims, conv2d, …) no matrix is given here.
-/
namespace Primitiv.Graph
open Finset Primitiv.Gen.Elementwise Primitiv.Analysis

/-- both laws of the elementwise unary operator of the scalar pair `fw`, `bw` on `n` elements at `x0` -/
def UnaryLaws (fw : ℝ → ℝ) (bw : ℝ → ℝ → ℝ → ℝ) (n : Nat) (x0 : Vec ℝ) : Prop :=
  CurveLawAt (elemUnary fw bw) [n] [n] (elemUnaryJvp fw) [x0] ∧
  AdjointLawAt (elemUnary fw bw) [n] [n] (elemUnaryJvp fw) [x0] [fun i => fw (x0 i)]

/-- **Every scalar pair with `IsBackwardOf` gives an operator with both laws**: if at each of the `n`
argument entries `bw` is a backward formula of `fw` (`fw` differentiable there and
`bw x (fw x) gy = gy · fw′(x)`), then `elemUnary fw bw` obeys the curve law and the adjoint law there. -/
theorem unary_laws (fw : ℝ → ℝ) (bw : ℝ → ℝ → ℝ → ℝ) (n : Nat) (x0 : Vec ℝ)
    (h : ∀ i, i < n → C01.Arith.IsBackwardOf fw bw (x0 i)) : UnaryLaws fw bw n x0 :=
  ⟨unary_curveLaw fw bw n x0 fun i hi => let ⟨_, hd, _⟩ := h i hi; hd.differentiableAt,
    unary_adjointLaw fw bw n x0 h⟩

open C01.Arith C01.Arith.Elementwise in
/-- sigmoid kernels (Naive and Eigen), everywhere -/
theorem sigmoid_laws (n : Nat) (x0 : Vec ℝ) :
    UnaryLaws (naive_sigmoid_fw realFns) (naive_sigmoid_bw realFns) n x0 ∧
    UnaryLaws (eigen_sigmoid_fw realFns) (eigen_sigmoid_bw realFns) n x0 :=
  ⟨unary_laws _ _ n x0 fun i _ => (sigmoid_bw_is_derivative (x0 i)).1,
   unary_laws _ _ n x0 fun i _ => (sigmoid_bw_is_derivative (x0 i)).2⟩

open C01.Arith C01.Arith.Elementwise in
/-- softplus kernels, everywhere -/
theorem softplus_laws (n : Nat) (x0 : Vec ℝ) :
    UnaryLaws (naive_softplus_fw realFns) (naive_softplus_bw realFns) n x0 ∧
    UnaryLaws (eigen_softplus_fw realFns) (eigen_softplus_bw realFns) n x0 :=
  ⟨unary_laws _ _ n x0 fun i _ => (softplus_bw_is_derivative (x0 i)).1,
   unary_laws _ _ n x0 fun i _ => (softplus_bw_is_derivative (x0 i)).2⟩

open C01.Arith C01.Arith.Elementwise in
/-- exp kernels, everywhere -/
theorem exp_laws (n : Nat) (x0 : Vec ℝ) :
    UnaryLaws (naive_exp_fw realFns) (naive_exp_bw realFns) n x0 ∧
    UnaryLaws (eigen_exp_fw realFns) (eigen_exp_bw realFns) n x0 :=
  ⟨unary_laws _ _ n x0 fun i _ => (exp_bw_is_derivative (x0 i)).1,
   unary_laws _ _ n x0 fun i _ => (exp_bw_is_derivative (x0 i)).2⟩

open C01.Arith C01.Arith.Elementwise in
/-- log kernels, where every entry is non-zero -/
theorem log_laws (n : Nat) (x0 : Vec ℝ) (hx : ∀ i, i < n → x0 i ≠ 0) :
    UnaryLaws (naive_log_fw realFns) (naive_log_bw realFns) n x0 ∧
    UnaryLaws (eigen_log_fw realFns) (eigen_log_bw realFns) n x0 :=
  ⟨unary_laws _ _ n x0 fun i hi => (log_bw_is_derivative (hx i hi)).1,
   unary_laws _ _ n x0 fun i hi => (log_bw_is_derivative (hx i hi)).2⟩

open C01.Arith C01.Arith.Elementwise in
/-- sqrt kernels, where every entry is positive -/
theorem sqrt_laws (n : Nat) (x0 : Vec ℝ) (hx : ∀ i, i < n → 0 < x0 i) :
    UnaryLaws (naive_sqrt_fw realFns) (naive_sqrt_bw realFns) n x0 ∧
    UnaryLaws (eigen_sqrt_fw realFns) (eigen_sqrt_bw realFns) n x0 :=
  ⟨unary_laws _ _ n x0 fun i hi => (sqrt_bw_is_derivative (hx i hi)).1,
   unary_laws _ _ n x0 fun i hi => (sqrt_bw_is_derivative (hx i hi)).2⟩

open C01.Arith C01.Arith.Elementwise in
/-- sin kernels, everywhere -/
theorem sin_laws (n : Nat) (x0 : Vec ℝ) :
    UnaryLaws (naive_sin_fw realFns) (naive_sin_bw realFns) n x0 ∧
    UnaryLaws (eigen_sin_fw realFns) (eigen_sin_bw realFns) n x0 :=
  ⟨unary_laws _ _ n x0 fun i _ => (sin_bw_is_derivative (x0 i)).1,
   unary_laws _ _ n x0 fun i _ => (sin_bw_is_derivative (x0 i)).2⟩

open C01.Arith C01.Arith.Elementwise in
/-- cos kernels, everywhere -/
theorem cos_laws (n : Nat) (x0 : Vec ℝ) :
    UnaryLaws (naive_cos_fw realFns) (naive_cos_bw realFns) n x0 ∧
    UnaryLaws (eigen_cos_fw realFns) (eigen_cos_bw realFns) n x0 :=
  ⟨unary_laws _ _ n x0 fun i _ => (cos_bw_is_derivative (x0 i)).1,
   unary_laws _ _ n x0 fun i _ => (cos_bw_is_derivative (x0 i)).2⟩

open C01.Arith C01.Arith.Elementwise in
/-- tan kernels, where `cos` does not vanish -/
theorem tan_laws (n : Nat) (x0 : Vec ℝ) (hx : ∀ i, i < n → Real.cos (x0 i) ≠ 0) :
    UnaryLaws (naive_tan_fw realFns) (naive_tan_bw realFns) n x0 ∧
    UnaryLaws (eigen_tan_fw realFns) (eigen_tan_bw realFns) n x0 :=
  ⟨unary_laws _ _ n x0 fun i hi => (tan_bw_is_derivative (hx i hi)).1,
   unary_laws _ _ n x0 fun i hi => (tan_bw_is_derivative (hx i hi)).2⟩

open C01.Arith C01.Arith.Elementwise in
/-- abs kernels, where every entry is non-zero -/
theorem abs_laws (n : Nat) (x0 : Vec ℝ) (hx : ∀ i, i < n → x0 i ≠ 0) :
    UnaryLaws (naive_abs_fw realFns) (naive_abs_bw realFns) n x0 ∧
    UnaryLaws (eigen_abs_fw realFns) (eigen_abs_bw realFns) n x0 :=
  ⟨unary_laws _ _ n x0 fun i hi => (abs_bw_is_derivative (hx i hi)).1,
   unary_laws _ _ n x0 fun i hi => (abs_bw_is_derivative (hx i hi)).2⟩

/-! #### operators with a constant `k` (`x + k`, `x − k`, `k − x`, `x · k`, `x / k`, `k / x`, `x ^ k`, `k ^ x`, prelu, elu) -/

open C01.Arith C01.Arith.Elementwise in
theorem add_const_laws (k : ℝ) (n : Nat) (x0 : Vec ℝ) :
    UnaryLaws (cf (naive_add_const_fw realFns) k) (cb (naive_add_const_bw realFns) k) n x0 ∧
    UnaryLaws (cf (eigen_add_const_fw realFns) k) (cb (eigen_add_const_bw realFns) k) n x0 :=
  ⟨unary_laws _ _ n x0 fun i _ => (add_const_bw_is_derivative k (x0 i)).1,
   unary_laws _ _ n x0 fun i _ => (add_const_bw_is_derivative k (x0 i)).2⟩

open C01.Arith C01.Arith.Elementwise in
theorem subtract_const_r_laws (k : ℝ) (n : Nat) (x0 : Vec ℝ) :
    UnaryLaws (cf (naive_subtract_const_r_fw realFns) k) (cb (naive_subtract_const_r_bw realFns) k) n x0 ∧
    UnaryLaws (cf (eigen_subtract_const_r_fw realFns) k) (cb (eigen_subtract_const_r_bw realFns) k) n x0 :=
  ⟨unary_laws _ _ n x0 fun i _ => (subtract_const_r_bw_is_derivative k (x0 i)).1,
   unary_laws _ _ n x0 fun i _ => (subtract_const_r_bw_is_derivative k (x0 i)).2⟩

open C01.Arith C01.Arith.Elementwise in
theorem subtract_const_l_laws (k : ℝ) (n : Nat) (x0 : Vec ℝ) :
    UnaryLaws (cf (naive_subtract_const_l_fw realFns) k) (cb (naive_subtract_const_l_bw realFns) k) n x0 ∧
    UnaryLaws (cf (eigen_subtract_const_l_fw realFns) k) (cb (eigen_subtract_const_l_bw realFns) k) n x0 :=
  ⟨unary_laws _ _ n x0 fun i _ => (subtract_const_l_bw_is_derivative k (x0 i)).1,
   unary_laws _ _ n x0 fun i _ => (subtract_const_l_bw_is_derivative k (x0 i)).2⟩

open C01.Arith C01.Arith.Elementwise in
theorem multiply_const_laws (k : ℝ) (n : Nat) (x0 : Vec ℝ) :
    UnaryLaws (cf (naive_multiply_const_fw realFns) k) (cb (naive_multiply_const_bw realFns) k) n x0 ∧
    UnaryLaws (cf (eigen_multiply_const_fw realFns) k) (cb (eigen_multiply_const_bw realFns) k) n x0 :=
  ⟨unary_laws _ _ n x0 fun i _ => (multiply_const_bw_is_derivative k (x0 i)).1,
   unary_laws _ _ n x0 fun i _ => (multiply_const_bw_is_derivative k (x0 i)).2⟩

open C01.Arith C01.Arith.Elementwise in
theorem divide_const_r_laws (k : ℝ) (n : Nat) (x0 : Vec ℝ) :
    UnaryLaws (cf (naive_divide_const_r_fw realFns) k) (cb (naive_divide_const_r_bw realFns) k) n x0 ∧
    UnaryLaws (cf (eigen_divide_const_r_fw realFns) k) (cb (eigen_divide_const_r_bw realFns) k) n x0 :=
  ⟨unary_laws _ _ n x0 fun i _ => (divide_const_r_bw_is_derivative k (x0 i)).1,
   unary_laws _ _ n x0 fun i _ => (divide_const_r_bw_is_derivative k (x0 i)).2⟩

open C01.Arith C01.Arith.Elementwise in
/-- `k / x`, where every entry is non-zero -/
theorem divide_const_l_laws (k : ℝ) (n : Nat) (x0 : Vec ℝ) (hx : ∀ i, i < n → x0 i ≠ 0) :
    UnaryLaws (cf (naive_divide_const_l_fw realFns) k) (cb (naive_divide_const_l_bw realFns) k) n x0 ∧
    UnaryLaws (cf (eigen_divide_const_l_fw realFns) k) (cb (eigen_divide_const_l_bw realFns) k) n x0 :=
  ⟨unary_laws _ _ n x0 fun i hi => (divide_const_l_bw_is_derivative k (hx i hi)).1,
   unary_laws _ _ n x0 fun i hi => (divide_const_l_bw_is_derivative k (hx i hi)).2⟩

open C01.Arith C01.Arith.Elementwise in
/-- `x ^ k` (real exponent), where every entry is positive -/
theorem pow_const_r_laws (k : ℝ) (n : Nat) (x0 : Vec ℝ) (hx : ∀ i, i < n → 0 < x0 i) :
    UnaryLaws (cf (naive_pow_const_r_fw realFns) k) (cb (naive_pow_const_r_bw realFns) k) n x0 ∧
    UnaryLaws (cf (eigen_pow_const_r_fw realFns) k) (cb (eigen_pow_const_r_bw realFns) k) n x0 :=
  ⟨unary_laws _ _ n x0 fun i hi => (pow_const_r_bw_is_derivative k (hx i hi)).1,
   unary_laws _ _ n x0 fun i hi => (pow_const_r_bw_is_derivative k (hx i hi)).2⟩

open C01.Arith C01.Arith.Elementwise in
/-- `k ^ x`, positive base `k` -/
theorem pow_const_l_laws {k : ℝ} (hk : 0 < k) (n : Nat) (x0 : Vec ℝ) :
    UnaryLaws (cf (naive_pow_const_l_fw realFns) k) (cb (naive_pow_const_l_bw realFns) k) n x0 ∧
    UnaryLaws (cf (eigen_pow_const_l_fw realFns) k) (cb (eigen_pow_const_l_bw realFns) k) n x0 :=
  ⟨unary_laws _ _ n x0 fun i _ => (pow_const_l_bw_is_derivative hk (x0 i)).1,
   unary_laws _ _ n x0 fun i _ => (pow_const_l_bw_is_derivative hk (x0 i)).2⟩

open C01.Arith C01.Arith.Elementwise in
/-- prelu, where every entry is non-zero -/
theorem prelu_laws (k : ℝ) (n : Nat) (x0 : Vec ℝ) (hx : ∀ i, i < n → x0 i ≠ 0) :
    UnaryLaws (cf (naive_prelu_fw realFns) k) (cb (naive_prelu_bw realFns) k) n x0 ∧
    UnaryLaws (cf (eigen_prelu_fw realFns) k) (cb (eigen_prelu_bw realFns) k) n x0 :=
  ⟨unary_laws _ _ n x0 fun i hi => (prelu_bw_is_derivative k (hx i hi)).1,
   unary_laws _ _ n x0 fun i hi => (prelu_bw_is_derivative k (hx i hi)).2⟩

open C01.Arith C01.Arith.Elementwise in
/-- elu, where every entry is non-zero -/
theorem elu_laws (k : ℝ) (n : Nat) (x0 : Vec ℝ) (hx : ∀ i, i < n → x0 i ≠ 0) :
    UnaryLaws (cf (naive_elu_fw realFns) k) (cb (naive_elu_bw realFns) k) n x0 ∧
    UnaryLaws (cf (eigen_elu_fw realFns) k) (cb (eigen_elu_bw realFns) k) n x0 :=
  ⟨unary_laws _ _ n x0 fun i hi => (elu_bw_is_derivative k (hx i hi)).1,
   unary_laws _ _ n x0 fun i hi => (elu_bw_is_derivative k (hx i hi)).2⟩

/-- pown (integer power by the square-and-multiply loop of the kernel, rule `k·gy·y/x`), where every
entry is non-zero (at `x = 0` the rule is not the derivative: known finding `pown-bw-zero`) -/
theorem pown_laws (k : Int) (n : Nat) (x0 : Vec ℝ) (hx : ∀ i, i < n → x0 i ≠ 0) :
    UnaryLaws (fun x => Arith.pownElem (1 : ℝ) k x)
      (fun x y gy => Arith.pownBwElem (fun n : Int => (n : ℝ)) k x y gy) n x0 :=
  unary_laws _ _ n x0 fun i hi => C01.Arith.pown_bw_is_derivative k (hx i hi)

/-- **Curve law of an elementwise binary operator.** -/
theorem binary_curveLaw (f : ℝ → ℝ → ℝ) (bwa bwb : ℝ → ℝ → ℝ → ℝ → ℝ) (da db : ℝ → ℝ → ℝ) (n : Nat)
    (a0 b0 : Vec ℝ) (h : ∀ i, i < n → IsBackwardOf2 f bwa bwb da db (a0 i) (b0 i)) :
    CurveLawAt (elemBinary f bwa bwb) [n, n] [n] (elemBinaryJvp da db) [a0, b0] :=
  curveLaw_of_fwd2 (fun _ _ => rfl) (fun _ _ _ _ => rfl) fun a b ta tb ha0 hb0 ha hb i hi => by
    subst ha0 hb0
    exact (h i hi).1 _ _ _ _ rfl rfl (ha i hi) (hb i hi)

/-- **Adjoint law of an elementwise binary operator**, at the return value `f ∘ (a0, b0)`. -/
theorem binary_adjointLaw (f : ℝ → ℝ → ℝ) (bwa bwb : ℝ → ℝ → ℝ → ℝ → ℝ) (da db : ℝ → ℝ → ℝ) (n : Nat)
    (a0 b0 : Vec ℝ) (h : ∀ i, i < n → IsBackwardOf2 f bwa bwb da db (a0 i) (b0 i)) :
    AdjointLawAt (elemBinary f bwa bwb) [n, n] [n] (elemBinaryJvp da db) [a0, b0]
      [fun i => f (a0 i) (b0 i)] :=
  adjointLaw_of_bwd2 (fun _ => rfl) (fun _ _ => rfl) fun g ta tb => by
    unfold dot
    rw [← sum_add_distrib]
    refine sum_congr rfl fun i hi => ?_
    obtain ⟨h1, h2⟩ := (h i (mem_range.mp hi)).2 (g i)
    show bwa (a0 i) (b0 i) (f (a0 i) (b0 i)) (g i) * ta i + bwb (a0 i) (b0 i) (f (a0 i) (b0 i)) (g i) * tb i
      = g i * (da (a0 i) (b0 i) * ta i + db (a0 i) (b0 i) * tb i)
    rw [h1, h2]
    ring

/-- both laws of an elementwise binary operator on two operands of `n` elements -/
def BinaryLaws (f : ℝ → ℝ → ℝ) (bwa bwb : ℝ → ℝ → ℝ → ℝ → ℝ) (da db : ℝ → ℝ → ℝ) (n : Nat) (a0 b0 : Vec ℝ) : Prop :=
  CurveLawAt (elemBinary f bwa bwb) [n, n] [n] (elemBinaryJvp da db) [a0, b0] ∧
  AdjointLawAt (elemBinary f bwa bwb) [n, n] [n] (elemBinaryJvp da db) [a0, b0] [fun i => f (a0 i) (b0 i)]

/-- add: generated forward formula `a + b`; kernel rule `ga += gy`, `gb += gy` -/
theorem add_laws (n : Nat) (a0 b0 : Vec ℝ) :
    BinaryLaws (naive_add_fw realFns) (fun _ _ _ g => g) (fun _ _ _ g => g) (fun _ _ => 1) (fun _ _ => 1) n a0 b0 := by
  suffices h : ∀ i, i < n → IsBackwardOf2 _ _ _ _ _ (a0 i) (b0 i) from
    ⟨binary_curveLaw _ _ _ _ _ n a0 b0 h, binary_adjointLaw _ _ _ _ _ n a0 b0 h⟩
  intro i _
  refine ⟨fun x y x' y' _ _ hx hy => ?_, fun g => by simp⟩
  have := hx.fun_add hy
  simp only [naive_add_fw]
  refine this.congr_deriv ?_
  ring

/-- subtract: `a − b`; kernel rule `ga += gy`, `gb −= gy` -/
theorem subtract_laws (n : Nat) (a0 b0 : Vec ℝ) :
    BinaryLaws (naive_subtract_fw realFns) (fun _ _ _ g => g) (fun _ _ _ g => -g) (fun _ _ => 1) (fun _ _ => -1)
      n a0 b0 := by
  suffices h : ∀ i, i < n → IsBackwardOf2 _ _ _ _ _ (a0 i) (b0 i) from
    ⟨binary_curveLaw _ _ _ _ _ n a0 b0 h, binary_adjointLaw _ _ _ _ _ n a0 b0 h⟩
  intro i _
  refine ⟨fun x y x' y' _ _ hx hy => ?_, fun g => by simp⟩
  have := hx.sub hy
  simp only [naive_subtract_fw]
  refine this.congr_deriv ?_
  ring

/-- multiply: `a · b`; kernel rule `ga += gy · b`, `gb += gy · a` -/
theorem multiply_laws (n : Nat) (a0 b0 : Vec ℝ) :
    BinaryLaws (naive_multiply_fw realFns) (fun _ b _ g => g * b) (fun a _ _ g => g * a)
      (fun _ b => b) (fun a _ => a) n a0 b0 := by
  suffices h : ∀ i, i < n → IsBackwardOf2 _ _ _ _ _ (a0 i) (b0 i) from
    ⟨binary_curveLaw _ _ _ _ _ n a0 b0 h, binary_adjointLaw _ _ _ _ _ n a0 b0 h⟩
  intro i _
  refine ⟨fun x y x' y' hx0 hy0 hx hy => ?_, fun g => ⟨rfl, rfl⟩⟩
  have := hx.fun_mul hy
  simp only [naive_multiply_fw]
  refine this.congr_deriv ?_
  rw [hx0, hy0]
  ring

/-- divide: `a / b` where every divisor entry is non-zero; kernel rule `k = gy / b`, `ga += k`,
`gb −= k · y` -/
theorem divide_laws (n : Nat) (a0 b0 : Vec ℝ) (hb : ∀ i, i < n → b0 i ≠ 0) :
    BinaryLaws (naive_divide_fw realFns) (fun _ b _ g => g / b) (fun _ b y g => -(g / b * y))
      (fun _ b => 1 / b) (fun a b => -(a / b) / b) n a0 b0 := by
  suffices h : ∀ i, i < n → IsBackwardOf2 _ _ _ _ _ (a0 i) (b0 i) from
    ⟨binary_curveLaw _ _ _ _ _ n a0 b0 h, binary_adjointLaw _ _ _ _ _ n a0 b0 h⟩
  intro i hi
  have hbi := hb i hi
  refine ⟨fun x y x' y' hx0 hy0 hx hy => ?_, fun g => ⟨?_, ?_⟩⟩
  · have := hx.fun_div hy (by rw [hy0]; exact hbi)
    simp only [naive_divide_fw]
    refine this.congr_deriv ?_
    rw [hx0, hy0]
    field_simp
    ring
  · ring
  · simp only [naive_divide_fw]; ring

/-- pow: `a ^ b` (real power) where every base entry is positive; kernel rule `a' = gy · y`,
`ga += a' · b / a`, `gb += a' · log a` -/
theorem pow_laws (n : Nat) (a0 b0 : Vec ℝ) (ha : ∀ i, i < n → 0 < a0 i) :
    BinaryLaws (naive_pow_fw realFns) (fun a b y g => g * y * b / a) (fun a _ y g => g * y * Real.log a)
      (fun a b => b * a ^ b / a) (fun a b => Real.log a * a ^ b) n a0 b0 := by
  suffices h : ∀ i, i < n → IsBackwardOf2 _ _ _ _ _ (a0 i) (b0 i) from
    ⟨binary_curveLaw _ _ _ _ _ n a0 b0 h, binary_adjointLaw _ _ _ _ _ n a0 b0 h⟩
  intro i hi
  have hai := ha i hi
  refine ⟨fun x y x' y' hx0 hy0 hx hy => ?_, fun g => ⟨?_, ?_⟩⟩
  · have := hx.rpow hy (by rw [hx0]; exact hai)
    simp only [naive_pow_fw, fns_pow]
    refine this.congr_deriv ?_
    rw [hx0, hy0, Real.rpow_sub_one hai.ne']
    ring
  · simp only [naive_pow_fw, fns_pow]; ring
  · simp only [naive_pow_fw, fns_pow]; ring

/-- **Curve law of every linear operator** `linOp ns ms A` (argument sizes `ns`, return sizes `ms`,
matrix `A`), at every point: the derivative of `A · X(ε)` is `A · T`. -/
theorem lin_curveLaw (ns ms : List Nat) (A : Nat → Nat → Nat → Nat → ℝ) (x0 : List (Vec ℝ)) :
    CurveLawAt (linOp ns ms A) ns ms (linJvp ns ms A) x0 := by
  intro X T Y _ hlen _ hder hY j hj i _
  have hy : ∀ ε, Y ε = (List.range ms.length).map (linApply ns A (X ε)) := by
    intro ε
    have h := hY ε
    unfold linOp at h
    simp only [hlen ε, if_true] at h
    exact (Option.some.inj h).symm
  have hfun : (fun ε => (Y ε).getD j (fun _ => 0) i)
      = fun ε => sum2 ns fun k i' => A j i k i' * (X ε).getD k (fun _ => 0) i' := by
    funext ε; rw [hy ε, getD_map_range _ _ _ hj]; rfl
  have hT : (linJvp ns ms A x0 T).getD j (fun _ => 0) i
      = sum2 ns fun k i' => A j i k i' * T.getD k (fun _ => 0) i' := by
    unfold linJvp; rw [getD_map_range _ _ _ hj]; rfl
  rw [hfun, hT]
  unfold sum2
  refine HasDerivAt.fun_sum fun k hk => HasDerivAt.fun_sum fun i' hi' => ?_
  exact (hder k (mem_range.mp hk) i' (mem_range.mp hi')).const_mul (A j i k i')

/-- **Adjoint law of every linear operator**: the backward rule `Aᵀ · gys` is the transpose of `A`,
at all argument and return values. -/
theorem lin_adjointLaw (ns ms : List Nat) (A : Nat → Nat → Nat → Nat → ℝ) (xs ys : List (Vec ℝ)) :
    AdjointLawAt (linOp ns ms A) ns ms (linJvp ns ms A) xs ys := by
  intro gys ts _ ht
  show listContrib ns ts ((List.range ns.length).map fun k =>
      some fun i' => sum2 ms fun j i => A j i k i' * gys.getD j (fun _ => 0) i) = _
  rw [listContrib_range ns ts _ ht]
  have hR : ∑ j ∈ range ms.length, dot (ms.getD j 0) (gys.getD j fun _ => 0)
        ((linJvp ns ms A xs ts).getD j fun _ => 0)
      = sum2 ms fun j i => gys.getD j (fun _ => 0) i * sum2 ns fun k i' => A j i k i' * ts.getD k (fun _ => 0) i' := by
    show _ = ∑ j ∈ range ms.length, ∑ i ∈ range (ms.getD j 0), _
    refine sum_congr rfl fun j hj => ?_
    unfold linJvp
    rw [getD_map_range _ _ _ (mem_range.mp hj)]
    rfl
  have hL : ∑ k ∈ range ns.length, dot (ns.getD k 0)
        (fun i' => sum2 ms fun j i => A j i k i' * gys.getD j (fun _ => 0) i) (ts.getD k fun _ => 0)
      = sum2 ns fun k i' => (sum2 ms fun j i => A j i k i' * gys.getD j (fun _ => 0) i) * ts.getD k (fun _ => 0) i' :=
    rfl
  rw [hL, hR]
  simp only [sum2_mul_right, sum2_mul_left]
  rw [sum2_comm]
  refine sum2_congr _ _ _ fun j _ i _ => sum2_congr _ _ _ fun k _ i' _ => ?_
  ring

/-- the matrix of `sum` of all elements of one argument (one return value of size 1) -/
def sumMat : Nat → Nat → Nat → Nat → ℝ := fun _ _ _ _ => 1
/-- the matrix of a slice of `m` elements starting at `off` -/
def sliceMat (off : Nat) : Nat → Nat → Nat → Nat → ℝ := fun _ i _ i' => if i' = i + off then 1 else 0
/-- the matrix of a broadcast of `n` elements (element `i` of the result is element `i % n`) -/
def bcastMat (n : Nat) : Nat → Nat → Nat → Nat → ℝ := fun _ i _ i' => if i' = i % n then 1 else 0

example (n : Nat) (x : Vec ℝ) : (linOp [n] [1] sumMat).fwd [x] = some [fun _ => ∑ i ∈ range n, x i] := by
  show some [linApply [n] sumMat [x] 0] = _
  congr 2
  funext i
  rw [linApply_singleton]
  exact sum_congr rfl fun i' _ => one_mul _
example (x : Vec ℝ) : (linOp [5] [2] (sliceMat 3)).fwd [x]
    = some [fun i => if i + 3 < 5 then x (i + 3) else 0] := by
  show some [linApply [5] (sliceMat 3) [x] 0] = _
  congr 2
  funext i
  rw [linApply_singleton]
  simp only [sliceMat, ite_mul, one_mul, zero_mul, sum_ite_eq', mem_range]

/-- **Both laws of a constant operator** (Input, Constant, zeros, ones, identity): tangent 0, no
contribution. -/
theorem const_laws (vals : List (Vec ℝ)) (ms : List Nat) (ys : List (Vec ℝ)) :
    CurveLawAt (constOp vals) [] ms (fun _ _ => []) [] ∧
    AdjointLawAt (constOp vals) [] ms (fun _ _ => []) [] ys := by
  constructor
  · intro X T Y _ hlen _ _ hY j _ i _
    have hy : ∀ ε, Y ε = vals := fun ε => by
      have h := hY ε
      rw [List.eq_nil_of_length_eq_zero (hlen ε)] at h
      exact (Option.some.inj h).symm
    simp only [hy]
    exact hasDerivAt_const _ _
  · intro gys ts _ _
    exact (sum_eq_zero fun j _ => dot_zero_right _ _).symm

/-- **Curve law of every bilinear operator** `bilinOp na nb m B` (Leibniz rule), at every point. -/
theorem bilin_curveLaw (na nb m : Nat) (B : Nat → Nat → Nat → ℝ) (a0 b0 : Vec ℝ) :
    CurveLawAt (bilinOp na nb m B) [na, nb] [m] (bilinJvp na nb B) [a0, b0] :=
  curveLaw_of_fwd2 (fun _ _ => rfl) (fun _ _ _ _ => rfl) fun a b ta tb _ _ ha hb j _ => by
    refine HasDerivAt.fun_sum fun i hi => HasDerivAt.fun_sum fun i' hi' => ?_
    refine (((ha i (mem_range.mp hi)).const_mul (B j i i')).fun_mul (hb i' (mem_range.mp hi'))).congr_deriv ?_
    ring

/-- **Adjoint law of every bilinear operator**: the two backward contributions are the transposes of
the two partial Jacobians. -/
theorem bilin_adjointLaw (na nb m : Nat) (B : Nat → Nat → Nat → ℝ) (a0 b0 : Vec ℝ) (ys : List (Vec ℝ)) :
    AdjointLawAt (bilinOp na nb m B) [na, nb] [m] (bilinJvp na nb B) [a0, b0] ys :=
  adjointLaw_of_bwd2 (fun _ => rfl) (fun _ _ => rfl) fun g ta tb => by
    unfold dot
    -- all three terms as sums over `j`, `i`, `i'` in this order
    simp only [sum_mul, mul_sum]
    rw [sum_comm, sum_comm (s := range nb), ← sum_add_distrib]
    refine sum_congr rfl fun j _ => ?_
    rw [sum_comm (s := range nb), ← sum_add_distrib]
    refine sum_congr rfl fun i _ => ?_
    rw [← sum_add_distrib]
    exact sum_congr rfl fun i' _ => by ring

/-- the coefficients of matmul for column-major `a : di × dj`, `b : dj × dk`, `y : di × dk`:
`y[r + di·c] = Σ_t a[r + di·t] · b[t + dj·c]` -/
def matmulCoef (di dj : Nat) : Nat → Nat → Nat → ℝ := fun j i i' =>
  if i % di = j % di ∧ i / di = i' % dj ∧ i' / dj = j / di then 1 else 0

/-- 2 × 2 matrices: entry (1, 0) of the product is `a₁₀·b₀₀ + a₁₁·b₁₀` -/
example (a b : Vec ℝ) : ((bilinOp 4 4 4 (matmulCoef 2 2)).fwd [a, b]).map (fun l => l.getD 0 (fun _ => 0) 1)
    = some (a 1 * b 0 + a 3 * b 1) := by
  show some (∑ i ∈ range 4, ∑ i' ∈ range 4, matmulCoef 2 2 1 i i' * a i * b i') = _
  simp only [matmulCoef, sum_range_succ, sum_range_zero, Nat.reduceMod, Nat.reduceDiv, Nat.reduceEqDiff,
    and_true, and_false, if_true, if_false, one_mul, zero_mul, zero_add, add_zero]

/-! ### a composite graph: `tanh((x₀ + x₁) · (x₀ + x₁))`, parameter `x` of size 2 -/

/-- operator 0: Parameter 0 (size 2); 1: sum of its elements (`linOp` with `sumMat`); 2: `n1 · n1`
(`elemBinary` multiply); 3: `tanh n2` (the generated tanh kernels); nothing evaluated -/
noncomputable def exComp : State (Vec ℝ) where
  ops := [ { kind := .param 0, args := [], rets := [{ size := 2 }] },
           { kind := .op (linOp [2] [1] sumMat), args := [⟨0, 0⟩], rets := [{ size := 1 }] },
           { kind := .op (elemBinary (naive_multiply_fw realFns) (fun _ b _ g => g * b) (fun a _ _ g => g * a)),
             args := [⟨1, 0⟩, ⟨1, 0⟩], rets := [{ size := 1 }] },
           { kind := .op (elemUnary (naive_tanh_fw realFns) (naive_tanh_bw realFns)), args := [⟨2, 0⟩],
             rets := [{ size := 1 }] } ]
  params := { value := fun _ _ => 0, grad := fun _ _ => 10 }
  sample := fun _ _ _ => 0

/-- the Jacobian-vector products of its operators -/
noncomputable def exCompJ : Nat → Jvp
  | 1 => linJvp [2] [1] sumMat
  | 2 => elemBinaryJvp (fun _ b => b) (fun a _ => a)
  | _ => elemUnaryJvp (naive_tanh_fw realFns)

/-- all hypotheses of `backward_is_gradient_of_forward` hold for `exComp`, for every base point `θ`
and every direction `δ` of the parameter: `backward` on the un-evaluated graph succeeds and the
increments of the parameter gradient are the directional derivative of the forward value -/
example (θ δ : Vec ℝ) : ∃ s', backward (TVec ℝ) (exComp.withPValue fun _ i => θ i + 0 * δ i) ⟨3, 0⟩ = (s', .ok ()) ∧
    HasDerivAt (fun ε : ℝ => Real.tanh ((θ 0 + ε * δ 0 + (θ 1 + ε * δ 1)) * (θ 0 + ε * δ 0 + (θ 1 + ε * δ 1))))
      ((s'.params.grad 0 0 - 10) * δ 0 + (s'.params.grad 0 1 - 10) * δ 1) 0 := by
  have hwf : WF exComp := by
    have h : exComp = run (TVec ℝ) (State.empty ⟨fun _ _ => 0, fun _ _ => 10⟩ fun _ _ _ => 0)
        [.addOperator (.param 0) [] [2], .addOperator (.op (linOp [2] [1] sumMat)) [⟨0, 0⟩] [1],
         .addOperator (.op (elemBinary (naive_multiply_fw realFns) (fun _ b _ g => g * b) (fun a _ _ g => g * a)))
           [⟨1, 0⟩, ⟨1, 0⟩] [1],
         .addOperator (.op (elemUnary (naive_tanh_fw realFns) (naive_tanh_bw realFns))) [⟨2, 0⟩] [1]] := rfl
    rw [h]
    refine run_wf _ (WF.empty _ _) _ fun op hop => ?_
    simp only [List.mem_cons, List.not_mem_nil, or_false] at hop
    rcases hop with rfl | rfl | rfl | rfl
    · exact ⟨rfl, rfl⟩
    · exact fun _ _ h => linOp_nret_le h
    · exact fun _ _ h => elemBinary_nret_le h
    · exact fun _ _ h => elemUnary_nret_le h
  obtain ⟨s', hb, _, _, _, hd⟩ := backward_is_gradient_of_forward exComp ⟨3, 0⟩ (fun ε _ i => θ i + ε * δ i)
    (fun ε => (forward (TVec ℝ) (exComp.withPValue fun _ i => θ i + ε * δ i) ⟨3, 0⟩).1)
    1 (fun _ => 2) (fun _ => δ) exCompJ hwf
    (by
      rintro k ⟨o, ho, h⟩; revert h; revert k o
      refine forall_getElem?_cons ?_ <| forall_getElem?_cons ?_ <| forall_getElem?_cons ?_ <|
        forall_getElem?_cons ?_ forall_getElem?_nil
      all_goals
        rintro ⟨n, hn, hv⟩
        cases List.mem_singleton.1 hn
        cases hv)
    (allGradsInvalid_of_B rfl) rfl
    (fun ε => ⟨_, rfl⟩)
    (by
      refine forall_anc <| forall_getElem?_cons ?_ <| forall_getElem?_cons ?_ <| forall_getElem?_cons ?_ <|
        forall_getElem?_cons ?_ forall_getElem?_nil
      · intro p hk; cases hk; exact ⟨Nat.zero_lt_one, rfl⟩
      all_goals exact fun p hk => nomatch hk)
    (fun p _ i _ => by
      simpa only [zero_add, one_mul] using ((hasDerivAt_id' (0 : ℝ)).mul_const (δ i)).const_add (θ i))
    (by
      refine forall_anc <| forall_getElem?_cons ?_ <| forall_getElem?_cons ?_ <| forall_getElem?_cons ?_ <|
        forall_getElem?_cons ?_ forall_getElem?_nil
      · exact fun sem hk => nomatch hk
      · intro sem hk; cases hk; exact lin_curveLaw [2] [1] sumMat _
      · intro sem hk; cases hk; exact (multiply_laws 1 _ _).1
      · intro sem hk; cases hk; exact (tanh_laws 1 _).1)
    (by
      refine forall_anc <| forall_getElem?_cons ?_ <| forall_getElem?_cons ?_ <| forall_getElem?_cons ?_ <|
        forall_getElem?_cons ?_ forall_getElem?_nil
      · exact fun sem hk => nomatch hk
      · intro sem hk ys _; cases hk; exact lin_adjointLaw [2] [1] sumMat _ _
      · intro sem hk ys hys; cases hk; cases hys; exact (multiply_laws 1 _ _).2
      · intro sem hk ys hys; cases hk; cases hys; exact (tanh_laws 1 _).2)
  refine ⟨s', hb, ?_⟩
  have hfun : (fun ε : ℝ => ∑ i ∈ range (exComp.sizeAt ⟨3, 0⟩),
        ((forward (TVec ℝ) (exComp.withPValue fun _ i => θ i + ε * δ i) ⟨3, 0⟩).1).valAt ⟨3, 0⟩ i)
      = fun ε : ℝ => Real.tanh ((θ 0 + ε * δ 0 + (θ 1 + ε * δ 1)) * (θ 0 + ε * δ 0 + (θ 1 + ε * δ 1))) := by
    funext ε
    refine (sum_range_one _).trans ?_
    show naive_tanh_fw realFns (naive_multiply_fw realFns
        (linApply [2] sumMat [fun i => θ i + ε * δ i] 0 0) (linApply [2] sumMat [fun i => θ i + ε * δ i] 0 0)) = _
    rw [C01.Arith.Elementwise.tanh_fw_eq, linApply_singleton]
    simp only [naive_multiply_fw, sumMat, one_mul, sum_range_succ, sum_range_zero, zero_add]
  have hval : (∑ p ∈ range 1, dot 2 (fun i => s'.params.grad p i - exComp.params.grad p i) δ)
      = (s'.params.grad 0 0 - 10) * δ 0 + (s'.params.grad 0 1 - 10) * δ 1 := by
    rw [sum_range_one, dot, sum_range_succ, sum_range_one]
    rfl
  rw [hfun, hval] at hd
  exact hd

end Primitiv.Graph
