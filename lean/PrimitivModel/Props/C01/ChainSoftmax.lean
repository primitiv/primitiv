import PrimitivModel.Lemmas.GraphTangentSoftmax
import PrimitivModel.Props.C01.ChainOps
/-!
C01, the chain rule continued: the curve law `CurveLawAt` and the adjoint law `AdjointLawAt` (the per-operator
hypotheses of `backward_is_gradient`, Props/C01/Chain.lean) for the softmax family and max / min, as
operators on a whole vector of `n` real entries (semantics in Lemmas/GraphTangentSoftmax.lean):

* `lse_laws`: logsumexp `y = log Σ_i exp x_i`, Jacobian-vector product `Σ_i softmax_i · t_i`,
  backward `gx_i += gy · exp (x_i − y)`;
* `softmax_laws`: `y_i = exp (x_i − lse x)`, backward `gx_i += y_i · (gy_i − Σ_k gy_k y_k)`;
* `logSoftmax_laws`: `y_i = x_i − lse x`, backward `gx_i += gy_i − exp(y_i) · Σ_k gy_k`;
* `sce_laws`: dense softmax cross entropy with a constant target `tgt`,
  `y = −Σ_i tgt_i · log_softmax(x)_i`, backward `gx_i += gy · (softmax(x)_i · Σ tgt − tgt_i)`;
* `max_laws`, `min_laws`: maximum / minimum of the entries at a point where it is attained exactly
  once (at index `k`): derivative `t_k`, backward routes `gy` to the entries equal to the extremum.
All for `0 < n`, at every argument value (max / min: at every value without a tie), with the return
value that `forward` stores.  A composite `example` runs `backward_is_gradient_of_forward` on
Parameter → `linOp` → softmax cross entropy.
-/
namespace Primitiv.Graph
open Finset

/-- **logsumexp**: both laws at every `x0` (`n > 0`). -/
theorem lse_laws (n : Nat) (hn : 0 < n) (x0 : Vec ℝ) :
    CurveLawAt (lseOp n) [n] [1] (vecJvp (lseD n)) [x0] ∧
    AdjointLawAt (lseOp n) [n] [1] (vecJvp (lseD n)) [x0] [fun _ => lse n x0] := by
  constructor
  · exact curveLaw_of_fwd1 (fun _ => rfl) (fun _ _ => rfl) fun x t _ h _ _ => lse_hasDerivAt hn x t h
  · refine adjointLaw_of_bwd1 (fun _ => rfl) (fun _ => rfl) fun g t => ?_
    rw [dot_one]
    unfold dot lseD smax
    rw [mul_sum]
    exact sum_congr rfl fun i _ => by ring

/-- **softmax**: both laws at every `x0` (`n > 0`). -/
theorem softmax_laws (n : Nat) (hn : 0 < n) (x0 : Vec ℝ) :
    CurveLawAt (softmaxOp n) [n] [n] (vecJvp (softmaxD n)) [x0] ∧
    AdjointLawAt (softmaxOp n) [n] [n] (vecJvp (softmaxD n)) [x0] [fun i => smax n x0 i] := by
  constructor
  · exact curveLaw_of_fwd1 (fun _ => rfl) (fun _ _ => rfl) fun x t _ h i hi => smax_hasDerivAt hn x t h i hi
  · refine adjointLaw_of_bwd1 (fun _ => rfl) (fun _ => rfl) fun g t => ?_
    exact softmax_adj_aux n (fun i => smax n x0 i) g t

/-- **log_softmax**: both laws at every `x0` (`n > 0`). -/
theorem logSoftmax_laws (n : Nat) (hn : 0 < n) (x0 : Vec ℝ) :
    CurveLawAt (logSoftmaxOp n) [n] [n] (vecJvp (logSoftmaxD n)) [x0] ∧
    AdjointLawAt (logSoftmaxOp n) [n] [n] (vecJvp (logSoftmaxD n)) [x0] [fun i => x0 i - lse n x0] := by
  constructor
  · exact curveLaw_of_fwd1 (fun _ => rfl) (fun _ _ => rfl) fun x t _ h i hi =>
      (h i hi).fun_sub (lse_hasDerivAt hn x t h)
  · refine adjointLaw_of_bwd1 (fun _ => rfl) (fun _ => rfl) fun g t => ?_
    exact logSoftmax_adj_aux n (fun i => smax n x0 i) g t

/-- **dense softmax cross entropy** with a constant target: both laws at every `x0` (`n > 0`). -/
theorem sce_laws (n : Nat) (hn : 0 < n) (tgt x0 : Vec ℝ) :
    CurveLawAt (sceOp n tgt) [n] [1] (vecJvp (sceD n tgt)) [x0] ∧
    AdjointLawAt (sceOp n tgt) [n] [1] (vecJvp (sceD n tgt)) [x0]
      [fun _ => -∑ i ∈ range n, tgt i * (x0 i - lse n x0)] := by
  constructor
  · exact curveLaw_of_fwd1 (fun _ => rfl) (fun _ _ => rfl) fun x t _ h _ _ =>
      (HasDerivAt.fun_sum fun i hi =>
        ((h i (mem_range.1 hi)).fun_sub (lse_hasDerivAt hn x t h)).const_mul (tgt i)).fun_neg
  · refine adjointLaw_of_bwd1 (fun _ => rfl) (fun _ => rfl) fun g t => ?_
    rw [dot_one]
    exact sce_adj_aux n (fun i => smax n x0 i) tgt t (g 0)

/-- **max over the vector**, at a point where the maximum is attained only at index `k`: the
derivative along a curve is that of entry `k`; the backward rule adds `gy` at entry `k` only. -/
theorem max_laws (n k : Nat) (hk : k < n) (x0 : Vec ℝ) (huniq : ∀ i, i < n → i ≠ k → x0 i < x0 k) :
    CurveLawAt (maxOp n) [n] [1] (vecJvp (pickD k)) [x0] ∧
    AdjointLawAt (maxOp n) [n] [1] (vecJvp (pickD k)) [x0] [fun _ => vmax n x0] := by
  constructor
  · refine curveLaw_of_fwd1 (fun _ => rfl) (fun _ _ => rfl) fun x t hx0 h i _ => ?_
    exact vmax_hasDerivAt hk x t h (by rw [hx0]; exact huniq)
  · exact adjointLaw_of_bwd1 (fun _ => rfl) (fun _ => rfl)
      (dot_pick hk (vmax_eq hk x0 huniq) fun i hi hik => (huniq i hi hik).ne)

/-- **min over the vector**, at a point where the minimum is attained only at index `k`. -/
theorem min_laws (n k : Nat) (hk : k < n) (x0 : Vec ℝ) (huniq : ∀ i, i < n → i ≠ k → x0 k < x0 i) :
    CurveLawAt (minOp n) [n] [1] (vecJvp (pickD k)) [x0] ∧
    AdjointLawAt (minOp n) [n] [1] (vecJvp (pickD k)) [x0] [fun _ => vmin n x0] := by
  constructor
  · refine curveLaw_of_fwd1 (fun _ => rfl) (fun _ _ => rfl) fun x t hx0 h i _ => ?_
    exact vmin_hasDerivAt hk x t h (by rw [hx0]; exact huniq)
  · exact adjointLaw_of_bwd1 (fun _ => rfl) (fun _ => rfl)
      (dot_pick hk (vmin_eq hk x0 huniq) fun i hi hik => (huniq i hi hik).ne')

/-! ### a composite graph: Parameter (size 2) → linear map `A` → softmax cross entropy with target `tgt` -/

/-- operator 0: Parameter 0 (size 2); 1: `z = A · x` (`linOp`, 2 → 2); 2: `sce(z, tgt)`; nothing evaluated -/
noncomputable def exSce (A : Nat → Nat → Nat → Nat → ℝ) (tgt : Vec ℝ) : State (Vec ℝ) where
  ops := [ { kind := .param 0, args := [], rets := [{ size := 2 }] },
           { kind := .op (linOp [2] [2] A), args := [⟨0, 0⟩], rets := [{ size := 2 }] },
           { kind := .op (sceOp 2 tgt), args := [⟨1, 0⟩], rets := [{ size := 1 }] } ]
  params := { value := fun _ _ => 0, grad := fun _ _ => 10 }
  sample := fun _ _ _ => 0

/-- the Jacobian-vector products of its operators -/
noncomputable def exSceJ (A : Nat → Nat → Nat → Nat → ℝ) (tgt : Vec ℝ) : Nat → Jvp
  | 1 => linJvp [2] [2] A
  | _ => vecJvp (sceD 2 tgt)

/-- all hypotheses of `backward_is_gradient_of_forward` hold for `exSce`, for every matrix `A`, target
`tgt`, base point `θ` and direction `δ`: `backward` on the un-evaluated graph succeeds and the
increments of the parameter gradient are the directional derivative of the loss `forward` computes -/
example (A : Nat → Nat → Nat → Nat → ℝ) (tgt θ δ : Vec ℝ) :
    ∃ s', backward (TVec ℝ) ((exSce A tgt).withPValue fun _ i => θ i + 0 * δ i) ⟨2, 0⟩ = (s', .ok ()) ∧
    HasDerivAt (fun ε : ℝ => -∑ i ∈ range 2, tgt i *
        (linApply [2] A [fun i => θ i + ε * δ i] 0 i - lse 2 (linApply [2] A [fun i => θ i + ε * δ i] 0)))
      ((s'.params.grad 0 0 - 10) * δ 0 + (s'.params.grad 0 1 - 10) * δ 1) 0 := by
  have hwf : WF (exSce A tgt) := by
    have h : exSce A tgt = run (TVec ℝ) (State.empty ⟨fun _ _ => 0, fun _ _ => 10⟩ fun _ _ _ => 0)
        [.addOperator (.param 0) [] [2], .addOperator (.op (linOp [2] [2] A)) [⟨0, 0⟩] [2],
         .addOperator (.op (sceOp 2 tgt)) [⟨1, 0⟩] [1]] := rfl
    rw [h]
    refine run_wf _ (WF.empty _ _) _ fun op hop => ?_
    simp only [List.mem_cons, List.not_mem_nil, or_false] at hop
    rcases hop with rfl | rfl | rfl
    · exact ⟨rfl, rfl⟩
    · exact fun _ _ h => linOp_nret_le h
    · exact fun _ _ h => vecOp_nret_le h
  obtain ⟨s', hb, _, _, _, hd⟩ := backward_is_gradient_of_forward (exSce A tgt) ⟨2, 0⟩ (fun ε _ i => θ i + ε * δ i)
    (fun ε => (forward (TVec ℝ) ((exSce A tgt).withPValue fun _ i => θ i + ε * δ i) ⟨2, 0⟩).1)
    1 (fun _ => 2) (fun _ => δ) (exSceJ A tgt) hwf
    (by
      rintro k ⟨o, ho, h⟩; revert h; revert k o
      refine forall_getElem?_cons ?_ <| forall_getElem?_cons ?_ <| forall_getElem?_cons ?_ forall_getElem?_nil
      all_goals
        rintro ⟨n, hn, hv⟩
        cases List.mem_singleton.1 hn
        cases hv)
    (allGradsInvalid_of_B rfl) rfl
    (fun ε => ⟨_, rfl⟩)
    (by
      refine forall_anc <| forall_getElem?_cons ?_ <| forall_getElem?_cons ?_ <| forall_getElem?_cons ?_ forall_getElem?_nil
      · intro p hk; cases hk; exact ⟨Nat.zero_lt_one, rfl⟩
      all_goals exact fun p hk => nomatch hk)
    (fun p _ i _ => by
      simpa only [zero_add, one_mul] using ((hasDerivAt_id' (0 : ℝ)).mul_const (δ i)).const_add (θ i))
    (by
      refine forall_anc <| forall_getElem?_cons ?_ <| forall_getElem?_cons ?_ <| forall_getElem?_cons ?_ forall_getElem?_nil
      · exact fun sem hk => nomatch hk
      · intro sem hk; cases hk; exact lin_curveLaw [2] [2] A _
      · intro sem hk; cases hk; exact (sce_laws 2 Nat.zero_lt_two tgt _).1)
    (by
      refine forall_anc <| forall_getElem?_cons ?_ <| forall_getElem?_cons ?_ <| forall_getElem?_cons ?_ forall_getElem?_nil
      · exact fun sem hk => nomatch hk
      · intro sem hk ys _; cases hk; exact lin_adjointLaw [2] [2] A _ _
      · intro sem hk ys hys; cases hk; cases hys; exact (sce_laws 2 Nat.zero_lt_two tgt _).2)
  refine ⟨s', hb, ?_⟩
  have hfun : (fun ε : ℝ => ∑ i ∈ range ((exSce A tgt).sizeAt ⟨2, 0⟩),
        ((forward (TVec ℝ) ((exSce A tgt).withPValue fun _ i => θ i + ε * δ i) ⟨2, 0⟩).1).valAt ⟨2, 0⟩ i)
      = fun ε : ℝ => -∑ i ∈ range 2, tgt i *
        (linApply [2] A [fun i => θ i + ε * δ i] 0 i - lse 2 (linApply [2] A [fun i => θ i + ε * δ i] 0)) :=
    funext fun ε => sum_range_one _
  have hval : (∑ p ∈ range 1, dot 2 (fun i => s'.params.grad p i - (exSce A tgt).params.grad p i) δ)
      = (s'.params.grad 0 0 - 10) * δ 0 + (s'.params.grad 0 1 - 10) * δ 1 := by
    rw [sum_range_one, dot, sum_range_succ, sum_range_one]
    rfl
  rw [hfun, hval] at hd
  exact hd

end Primitiv.Graph
