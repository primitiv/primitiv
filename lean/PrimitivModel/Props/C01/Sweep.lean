import PrimitivModel.Model.Graph
import PrimitivModel.Lemmas.SweepAdjoint
/-!
C01, theorem T1: the reverse sweep of `Graph::backward` is the transpose of forward mode.

The statement is about the executable model `Model/Graph.lean` (the one the driver `drv_graph` runs
against the real `primitiv::Graph`), instantiated at tensors `Vec R = Nat → R` over an arbitrary
commutative ring `R` with the pointwise operations `TVec R`
(`zeros _ = 0`, `ones _ = 1`, `add = +`); `dot n a b = Σ_{i<n} a i * b i`.

Every topology is an instance: fan-out, the same node several times among the arguments of one
operator (sequential accumulation), multi-output operators of which only some outputs are used
(zero-fill of the other outputs' gradients), operators created after the target, operators that are
not ancestors of the target (skipped by the `enabled` test — their contribution is `⟪0, tangent⟫`,
no appeal to `bwd 0 = 0` is made), Parameter operators of the same parameter occurring several
times, random sources (tangent 0 by their law).

Proof (Lemmas/SweepAdjoint.lean): the potential
`Φ_k = Σ_{nodes n of operators < k} ⟪grad n or 0, t n⟫ + Σ_p ⟪pgrad p, δ p⟫`
is preserved by every iteration `backwardStep · k` (`adjoint_step`): zero-filling adds `⟪0, ·⟫`, the
rule's contributions add exactly what invalidating the operator's own gradients removes (local
law), a Parameter operator moves `⟪gy, δ p⟫` from the first sum to the second.
-/
namespace Primitiv.Graph
open Finset

variable {R : Type} [CommRing R]

/-- **Reverse sweep = transpose of forward mode.**
For every state `s` of a graph and its parameters (any parameter gradients `g0 = s.params.grad`),
every target `a`, every family of parameter directions `δ` and every assignment of tangents `t`
to the nodes: if
* the graph is well-formed: arguments refer to smaller operator ids and to existing nodes, the target
  exists, every ancestor of the target is evaluated (argument values available; return values
  memoised unless it is a Parameter operator), all node gradients are invalid;
* (i) an ancestor that is a Parameter operator of `p` has one return value, of size `psize p`,
  with tangent `δ p` (and `p < P`);
* (ii) every other ancestor satisfies the local adjoint law at its stored argument and return
  values: for all return gradients `gys`,
  `Σ_i ⟪contribution_i, t arg_i⟫ = Σ_k ⟪gys_k, t ret_k⟫` where the contributions are
  `sem.bwd xs ys gys` (a `none` contribution counts as 0; a random source contributes nothing);
then `backward` succeeds, leaves values and all other parts of the state unchanged
(`SameFrame`), leaves all node gradients invalid, and
`Σ_{p<P} ⟪grad' p − g0 p, δ p⟫ = Σ_{i<size a} t a i` —
the directional derivative of the sum of all elements of the target. -/
theorem backward_adjoint (s : State (Vec R)) (a : Addr) (P : Nat) (psize : Nat → Nat)
    (δ : Nat → Vec R) (t : Addr → Vec R)
    (hargsBelow : ArgsBelow s)
    (hargsValid : ∀ (i : Nat) (o : OpInfo (Vec R)), s.ops[i]? = some o → ∀ b ∈ o.args, s.validAddr b = true)
    (hgradsInvalid : AllGradsInvalid s)
    (htarget : s.validAddr a = true)
    (hevaluated : ∀ (i : Nat) (o : OpInfo (Vec R)), Anc s.argsOf i a.oid → s.ops[i]? = some o →
      (∀ b ∈ o.args, (s.valueOf? b).isSome = true) ∧
      ((∀ p, o.kind ≠ .param p) → ∀ n ∈ o.rets, n.value.isSome = true))
    (hparam : ∀ (i : Nat) (o : OpInfo (Vec R)) (p : Nat), Anc s.argsOf i a.oid → s.ops[i]? = some o →
      o.kind = .param p → p < P ∧ o.rets.map (·.size) = [psize p] ∧ t ⟨i, 0⟩ = δ p)
    (hlaw : ∀ (i : Nat) (o : OpInfo (Vec R)), Anc s.argsOf i a.oid → s.ops[i]? = some o →
      (∀ p, o.kind ≠ .param p) → (∀ n ∈ o.rets, n.value.isSome = true) →
      ∀ xs, o.args.mapM s.valueOf? = some xs → ∀ gys : List (Vec R), gys.length = o.rets.length →
        contribSum s.sizeAt t (o.args.zip (kindContribs o.kind xs o.ys gys))
          = retSum t i (o.rets.map (·.size)) gys) :
    ∃ s', backward (TVec R) s a = (s', .ok ()) ∧ SameFrame s s' ∧ AllGradsInvalid s' ∧
      ∑ p ∈ range P, dot (psize p) (fun i => s'.params.grad p i - s.params.grad p i) (δ p)
        = ∑ i ∈ range (s.sizeAt a), t a i :=
  backward_adjoint_of_hyps s a P psize δ t
    ⟨hargsBelow, hargsValid, hgradsInvalid, htarget, hevaluated, hparam, hlaw⟩

/-! ### the hypotheses are satisfiable: `y = x * x`, one parameter `x = 3`, `R = ℤ` -/

/-- elementwise product with its backward rule `gx += gy * y`, `gy' += gy * x` -/
def mulVec : OpSem (Vec Int) where
  nret := 1
  fwd := fun xs => match xs with | [x, y] => some [fun i => x i * y i] | _ => none
  bwd := fun xs _ gys => match xs, gys with
    | [x, y], [g] => [some fun i => g i * y i, some fun i => g i * x i]
    | _, _ => []

/-- operator 0: Parameter 0 (value 3, prior gradient 10); operator 1: `n0 * n0`, evaluated (9) -/
def exSquareVec : State (Vec Int) where
  ops := [ { kind := .param 0, args := [], rets := [{ size := 1 }] },
           { kind := .op mulVec, args := [⟨0, 0⟩, ⟨0, 0⟩], rets := [{ size := 1, value := some fun _ => 9 }] } ]
  params := { value := fun _ _ => 3, grad := fun _ _ => 10 }
  sample := fun _ _ _ => 0

/-- direction `δ x = 1`, tangents `t x = 1`, `t y = 2·3·1 = 6` -/
def exTangent : Addr → Vec Int := fun b => if b.oid = 0 then fun _ => 1 else fun _ => 6

example : AdjointHyps exSquareVec ⟨1, 0⟩ 1 (fun _ => 1) (fun _ _ => 1) exTangent where
  argsBelow := argsBelow_of_B (by decide)
  argsValid := forall_getElem?_cons (by simp) <| forall_getElem?_cons
    (by intro b hb; simp at hb; subst hb; rfl) forall_getElem?_nil
  gradsInvalid := allGradsInvalid_of_B (by decide)
  target := by rfl
  evaluated := by
    intro i o h; clear h; revert i o
    refine forall_getElem?_cons ?_ (forall_getElem?_cons ⟨?_, ?_⟩ forall_getElem?_nil)
    · simp
    · intro b hb; simp at hb; subst hb; rfl
    · intro _ n hn; simp at hn; subst hn; rfl
  param := by
    intro i o p h; clear h; revert i o
    refine forall_getElem?_cons ?_ (forall_getElem?_cons ?_ forall_getElem?_nil)
    · intro hk; cases hk; exact ⟨by decide, rfl, rfl⟩
    · intro hk; cases hk
  law := by
    intro i o h; clear h; revert i o
    refine forall_getElem?_cons ?_ (forall_getElem?_cons ?_ forall_getElem?_nil)
    · intro hnp; exact absurd rfl (hnp 0)
    · intro _ _ xs hxs gys hlen
      have hx : xs = [fun _ => 3, fun _ => 3] := by
        simp [List.mapM_cons, State.valueOf?, exSquareVec] at hxs
        exact hxs.symm
      subst hx
      match gys, hlen with
      | [g], _ =>
        simp [kindContribs, mulVec, contribSum, retSum, dot, exTangent, State.sizeAt, shapeSize,
          State.shape, exSquareVec]
        ring

/-- and the conclusion on this instance: the gradient grows by `dy/dx · δ = 6` -/
example : (backward (TVec Int) exSquareVec ⟨1, 0⟩).1.params.grad 0 0 - exSquareVec.params.grad 0 0 = 6 := by
  decide

end Primitiv.Graph
