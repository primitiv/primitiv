import PrimitivModel.Props.C02.Move
import PrimitivModel.Lemmas.MoveAccept
import PrimitivModel.Props.C11.Move
import PrimitivModel.Lemmas.Adjoint
/-
C03 — minibatch law for the kernels of the family.

Forward, batch-agnostic kernels (`Batch.<k>_law`): sample `b` of the result is the
documented function of sample `b` of the operands, an operand with minibatch
size 1 being shared by all samples (`sampleOf X (share B b)`).  Since the
kernel equals the documented function on every shape (C02), in particular on
the single samples, this is "kernel(batch) restricted to sample b = kernel(sample
b of the operands)".  The `batch_*` kernels are the only ones that move data
across samples; their cross-sample specifications are `C02.Move.Fwd.batch_*_spec`.

Backward: the gradient reaching an accumulator is `gx` plus the SUM over the
samples of `gy` of what the entry point, called on that sample alone with a zero
accumulator, produces — `Batch.<k>_bw_law` at the level of the entry points
(pick_bw and slice_bw into a batch-1 `gx`; batch_pick_bw and batch_slice_bw, whose
accumulator keeps its minibatch; each per-sample call is shown to be accepted),
from the generic `Batch.bwd_fold` and the index identities of each loop nest.
flip_bw, transpose_bw, permute_dims_bw, max_bw, min_bw require equal minibatch
sizes (`gy.batch = gx.batch`, so a batch-1 accumulator receives one sample) and
add to `gx` what they produce on a zero accumulator.
-/
namespace Primitiv.C03.Move
open Primitiv Primitiv.Move Primitiv.MoveShape Primitiv.Spec.Move Primitiv.View3 Finset

def sampleOf {α} (X : V4 α) (b : Nat) : V4 α := fun a k c _ => X a k c b

theorem Batch.slice_law {α} {x y : Tensor α} {dim lower upper : Nat} {raw : Nat → α} (hx : WF x.shape)
    (h : sliceFw x dim lower upper raw = .ok y) :
    y.shape.batch = x.shape.batch ∧
    ∀ a k c b, a < lo x.shape dim → k < upper - lower → c < up x.shape dim → b < x.shape.batch →
      at4 (lo x.shape dim) (upper - lower) (up x.shape dim) y.data a k c b =
        slice (sampleOf (at4 (lo x.shape dim) (x.shape.get dim) (up x.shape dim) x.data) b) lower a k c 0 := by
  have ⟨_, _, hb, _, hv⟩ := C02.Move.Fwd.slice_spec hx h
  exact ⟨hb, hv⟩

theorem Batch.flip_law {α} {x y : Tensor α} {dim : Nat} {raw : Nat → α} (hx : WF x.shape)
    (h : flipFw x dim raw = .ok y) :
    y.shape = x.shape ∧
    ∀ a k c b, a < lo x.shape dim → k < x.shape.get dim → c < up x.shape dim → b < x.shape.batch →
      at4 (lo x.shape dim) (x.shape.get dim) (up x.shape dim) y.data a k c b =
        Spec.Move.flip (sampleOf (at4 (lo x.shape dim) (x.shape.get dim) (up x.shape dim) x.data) b) (x.shape.get dim) a k c 0 :=
  C02.Move.Fwd.flip_spec hx h

theorem Batch.broadcast_law {α} {x y : Tensor α} {dim size : Nat} {raw : Nat → α} (hx : WF x.shape)
    (h : broadcastFw x dim size raw = .ok y) :
    y.shape.batch = x.shape.batch ∧
    ∀ a k c b, a < lo x.shape dim → k < size → c < up x.shape dim → b < x.shape.batch →
      at4 (lo x.shape dim) size (up x.shape dim) y.data a k c b =
        broadcast (sampleOf (at4 (lo x.shape dim) 1 (up x.shape dim) x.data) b) a k c 0 := by
  have ⟨_, _, _, hb, _, hv⟩ := C02.Move.Fwd.broadcast_spec hx h
  exact ⟨hb, hv⟩

theorem Batch.sum_law {α} [Add α] [Zero α] {x y : Tensor α} {dim : Nat} (hx : WF x.shape) (h : sumFw x dim = .ok y) :
    y.shape.batch = x.shape.batch ∧
    ∀ a c b, a < lo x.shape dim → c < up x.shape dim → b < x.shape.batch →
      at4 (lo x.shape dim) 1 (up x.shape dim) y.data a 0 c b =
        sum (sampleOf (at4 (lo x.shape dim) (x.shape.get dim) (up x.shape dim) x.data) b) (x.shape.get dim) a 0 c 0 := by
  have ⟨_, hb, _, hv⟩ := C02.Move.Fwd.sum_spec hx h
  exact ⟨hb, hv⟩

theorem Batch.max_law {α} [LinearOrder α] {x y : Tensor α} {dim : Nat} (hx : WF x.shape) (h : maxFw x dim = .ok y) :
    y.shape.batch = x.shape.batch ∧
    ∀ a c b, a < lo x.shape dim → c < up x.shape dim → b < x.shape.batch →
      IsMax (fun k => sampleOf (at4 (lo x.shape dim) (x.shape.get dim) (up x.shape dim) x.data) b a k c 0)
        (x.shape.get dim) (at4 (lo x.shape dim) 1 (up x.shape dim) y.data a 0 c b) := by
  have ⟨_, hb, _, hv⟩ := C02.Move.Fwd.max_spec hx h
  exact ⟨hb, hv⟩

theorem Batch.min_law {α} [LinearOrder α] {x y : Tensor α} {dim : Nat} (hx : WF x.shape) (h : minFw x dim = .ok y) :
    y.shape.batch = x.shape.batch ∧
    ∀ a c b, a < lo x.shape dim → c < up x.shape dim → b < x.shape.batch →
      IsMin (fun k => sampleOf (at4 (lo x.shape dim) (x.shape.get dim) (up x.shape dim) x.data) b a k c 0)
        (x.shape.get dim) (at4 (lo x.shape dim) 1 (up x.shape dim) y.data a 0 c b) := by
  have ⟨_, hb, _, hv⟩ := C02.Move.Fwd.min_spec hx h
  exact ⟨hb, hv⟩

/-- argmax / argmin: the ids of sample `b` are a contiguous block of the result
and depend on sample `b` of the operand only -/
theorem Batch.argmax_law {α} [LinearOrder α] {x : Tensor α} {dim : Nat} {l : List Nat} (hx : WF x.shape)
    (h : argmax x dim = .ok l) :
    ∀ a c b, a < lo x.shape dim → c < up x.shape dim → b < x.shape.batch →
      IsArgmax (fun k => sampleOf (at4 (lo x.shape dim) (x.shape.get dim) (up x.shape dim) x.data) b a k c 0)
        (x.shape.get dim) (l.getD ((a + lo x.shape dim * c) + (lo x.shape dim * up x.shape dim) * b) 0) := by
  have ⟨_, hv⟩ := C02.Move.Fwd.argmax_spec hx h
  intro a c b ha hc hb
  have := hv a c b ha hc hb
  rwa [show a + lo x.shape dim * (c + up x.shape dim * b) = (a + lo x.shape dim * c) + (lo x.shape dim * up x.shape dim) * b by ring] at this

theorem Batch.argmin_law {α} [LinearOrder α] {x : Tensor α} {dim : Nat} {l : List Nat} (hx : WF x.shape)
    (h : argmin x dim = .ok l) :
    ∀ a c b, a < lo x.shape dim → c < up x.shape dim → b < x.shape.batch →
      IsArgmin (fun k => sampleOf (at4 (lo x.shape dim) (x.shape.get dim) (up x.shape dim) x.data) b a k c 0)
        (x.shape.get dim) (l.getD ((a + lo x.shape dim * c) + (lo x.shape dim * up x.shape dim) * b) 0) := by
  have ⟨_, hv⟩ := C02.Move.Fwd.argmin_spec hx h
  intro a c b ha hc hb
  have := hv a c b ha hc hb
  rwa [show a + lo x.shape dim * (c + up x.shape dim * b) = (a + lo x.shape dim * c) + (lo x.shape dim * up x.shape dim) * b by ring] at this

/-- pick: minibatch broadcasting between `x` and `ids`: the result has
`max(batch, |ids|)` samples; sample `b` is the subplane `ids[b]` (`ids[0]` for a
single id) of sample `b` of `x` (of its only sample when `x` has none); sizes
other than equal-or-1 are rejected. -/
theorem Batch.pick_law {α} {x y : Tensor α} {ids : List Nat} {dim : Nat} {raw : Nat → α} (hx : WF x.shape)
    (hlen : ids.length < W) (h : pickFw x ids dim raw = .ok y) :
    (x.shape.batch = ids.length ∨ x.shape.batch = 1 ∨ ids.length = 1) ∧
    y.shape.batch = max x.shape.batch ids.length ∧
    ∀ a c b, a < lo x.shape dim → c < up x.shape dim → b < max x.shape.batch ids.length →
      at4 (lo x.shape dim) 1 (up x.shape dim) y.data a 0 c b =
        sampleOf (at4 (lo x.shape dim) (x.shape.get dim) (up x.shape dim) x.data) (share x.shape.batch b)
          a (ids.getD (if ids.length = 1 then 0 else b) 0) c 0 := by
  have ⟨_, _, hc, _, hb, _, hv⟩ := C02.Move.Fwd.pick_spec hx hlen h
  exact ⟨hc, hb, hv⟩

-- minibatch broadcasting of pick: x without minibatch, three ids → three samples
example : C02.Move.values (pickFw C02.Move.docX [0, 0, 1] 0 C02.Move.raw0) = some ([1, 3], 3, [1, 4, 7, 1, 4, 7, 2, 5, 8]) := by decide
-- incompatible sizes are rejected: 2 samples, 3 ids
example : C02.Move.values (pickFw (α := Int) ⟨⟨[2], 2, 2⟩, fun i => i, .here⟩ [0, 1, 0] 0 C02.Move.raw0) = none := by decide
-- slice_bw folds the minibatch of gy into a gx without one
example : (match sliceBw (α := Int) ⟨⟨[1], 3, 1⟩, fun i => 10 * (i + 1), .here⟩ 0 1 ⟨⟨[2], 1, 2⟩, fun _ => 1, .here⟩ with
    | .ok g => (List.range 2).map g.data | .error _ => []) = [1, 61] := by decide

theorem Batch.transpose_law {α} {x y : Tensor α} {raw : Nat → α} (hx : WF x.shape) (h : transposeFw x raw = .ok y) :
    y.shape.batch = x.shape.batch ∧
    ∀ i j b, i < x.shape.get 0 → j < x.shape.get 1 → b < x.shape.batch →
      atM (x.shape.get 1) (x.shape.get 0) y.data j i b = atM (x.shape.get 0) (x.shape.get 1) x.data i j b := by
  have ⟨_, hb, _, _, _, hv⟩ := C02.Move.Fwd.transpose_spec hx h
  exact ⟨hb, hv⟩

/-! The law at the level of the entry points: `sampleT gy b` is sample `b` of `gy` as a tensor of its own, `zeroLike gx` a
zero accumulator of the shape of `gx`; `dataOr0` reads an element of the
outcome of a call (the per-sample calls are shown to succeed). -/

def sampleT {α} (gy : Tensor α) (b : Nat) : Tensor α :=
  ⟨oneSample gy.shape, fun i => gy.data (i + gy.shape.volume * b), .here⟩

def zeroLike {α} [Zero α] (gx : Tensor α) : Tensor α := ⟨gx.shape, fun _ => 0, .here⟩

def dataOr0 {α} [Zero α] (r : R (Tensor α)) (j : Nat) : α :=
  match r with
  | .ok g => g.data j
  | .error _ => 0

theorem Batch.bwd_fold {α} [AddCommMonoid α] {m : Moves} {B K Vy : Nat} {m1 : Nat → Moves} {gy gx : Nat → α}
    {s : Shape} {call : Nat → R (Tensor α)} (hf : Folds m m1 B K Vy)
    (hcall : ∀ b, b < B → call b =
      .ok ⟨s, scatterAdd (m1 b).didx (m1 b).sidx (fun i => gy (i + Vy * b)) (m1 b).count (fun _ => 0), .here⟩) :
    (∀ b, b < B → ∃ gb, call b = .ok gb) ∧
    ∀ j, scatterAdd m.didx m.sidx gy m.count gx j = gx j + ∑ b ∈ range B, dataOr0 (call b) j := by
  refine ⟨fun b hb => ⟨_, hcall b hb⟩, fun j => ?_⟩
  rw [hf.scatterAdd]
  congr 1
  exact sum_congr rfl fun b hb => by rw [hcall b (mem_range.mp hb)]; rfl

theorem sliceBw_data {R} [Add R] {gy gx g : Tensor R} {dim offset : Nat} (h : sliceBw gy dim offset gx = .ok g) :
    gy.loc = .here ∧ gx.loc = .here ∧ ∃ p, Front.sliceBw gy.shape gx.shape dim offset = .ok p ∧
      g.data = scatterAdd p.moves.didx p.moves.sidx gy.data p.moves.count gx.data := by
  obtain ⟨⟨hl1, hl2, _⟩, h⟩ := guarded_ok (xs := [gy, gx]).mp h
  obtain ⟨p, hB, h⟩ := bind_ok.mp h
  obtain ⟨_, rfl⟩ := runAdd_inv h
  exact ⟨hl1, hl2, p, hB, rfl⟩

theorem sliceBw_data_ok {R} [Add R] {gy gx : Tensor R} {dim offset : Nat} {p : Front.SliceBwPlan}
    (hy : WF gy.shape) (hx : WF gx.shape) (hl1 : gy.loc = .here) (hl2 : gx.loc = .here)
    (hp : Front.sliceBw gy.shape gx.shape dim offset = .ok p) :
    sliceBw gy dim offset gx =
      .ok ⟨gx.shape, scatterAdd p.moves.didx p.moves.sidx gy.data p.moves.count gx.data, .here⟩ :=
  guarded_ok (xs := [gy, gx]).mpr
    ⟨⟨hl1, hl2, trivial⟩, bind_ok.mpr ⟨p, hp, runAdd_ok (C11.Move.Kernel.slice_bw_in_bounds hy hx hp)⟩⟩

/-- **slice_bw** (also the backward of `concat`): the gradient reaching a
batch-1 `gx` is `gx` plus the sum over the samples of `gy` of what the call on
that sample alone adds to a zero accumulator; and each of these calls is accepted. -/
theorem Batch.slice_bw_law {R} [AddCommMonoid R] {gy gx g : Tensor R} {dim offset : Nat} (hy : WF gy.shape)
    (hx : WF gx.shape) (hoff : offset < W) (hbx : gx.shape.batch = 1) (h : sliceBw gy dim offset gx = .ok g) :
    (∀ b, b < gy.shape.batch → ∃ gb, sliceBw (sampleT gy b) dim offset (zeroLike gx) = .ok gb) ∧
    ∀ j, g.data j = gx.data j +
      ∑ b ∈ range gy.shape.batch, dataOr0 (sliceBw (sampleT gy b) dim offset (zeroLike gx)) j := by
  obtain ⟨_, _, p, hp, hg⟩ := sliceBw_data h
  obtain ⟨p1, hp1⟩ := Front.sliceBw_oneSample hp
  have hcall : ∀ b, b < gy.shape.batch → sliceBw (sampleT gy b) dim offset (zeroLike gx) =
      .ok ⟨gx.shape, scatterAdd p1.moves.didx p1.moves.sidx (fun i => gy.data (i + gy.shape.volume * b))
        p1.moves.count (fun _ => 0), .here⟩ :=
    fun b _ => sliceBw_data_ok (gy := sampleT gy b) (gx := zeroLike gx) (oneSample_wf hy) hx rfl rfl hp1
  rw [hg]
  obtain ⟨hget, _, _, _, _, hk⟩ := Front.sliceBw_plan hy hx hp
  obtain ⟨_, _, _, _, _, hk1⟩ := Front.sliceBw_plan (oneSample_wf hy) hx hp1
  have hv : gy.shape.volume = lo gx.shape dim * gy.shape.get dim * up gx.shape dim := by
    rw [(hy.toView dim).volume, lo_eq_of_get fun i hi => hget i (by omega), up_eq_of_get fun i hi => hget i (by omega)]
  -- `gx` has no minibatch: its batch stride is 0 and the loop runs over the samples of `gy`
  have hB := hy.bpos
  simp only [hbx, if_true, Nat.zero_mul, Nat.max_eq_left hB, Nat.max_eq_right hB] at hk hk1
  rw [hv] at hcall
  rcases hk with ⟨hd, hy1, _, _, rfl⟩ | ⟨hd, rfl⟩ <;> rcases hk1 with ⟨hd1, _, _, _, rfl⟩ | ⟨hd1, rfl⟩
  · -- the axis is at or beyond the depth: inplace_add
    rw [hy1, Nat.mul_one] at hcall
    exact Batch.bwd_fold (inplaceAdd_folds fun b hb => hb_mul_eq hb) hcall
  · omega
  · omega
  · exact Batch.bwd_fold (sliceBw_folds fun b hb => hb_mul_eq hb) hcall

theorem pickBw_data_ok {R} [Add R] {gy gx : Tensor R} {ids : List Nat} {dim : Nat} {m : Moves}
    (hy : WF gy.shape) (hx : WF gx.shape) (hlen : ids.length < W) (hl1 : gy.loc = .here) (hl2 : gx.loc = .here)
    (hp : Front.pickBw gy.shape gx.shape ids dim = .ok m) :
    pickBw gy ids dim gx = .ok ⟨gx.shape, scatterAdd m.didx m.sidx gy.data m.count gx.data, .here⟩ := by
  have ⟨hb, hi⟩ := C11.Move.Kernel.pick_bw_in_bounds hy hx hlen hp
  refine guarded_ok (xs := [gy, gx]).mpr ⟨⟨hl1, hl2, trivial⟩, bind_ok.mpr ⟨m, hp, ?_⟩⟩
  rw [if_neg (by simp [hi])]
  exact runAdd_ok hb

/-- **pick_bw**: the gradient reaching a batch-1 `gx` is `gx` plus the sum over the
samples `b` of what `pick_bw` on sample `b` of `gy` with the single id `ids[b]`
(`ids[0]` when there is only one id) adds to a zero accumulator. -/
theorem Batch.pick_bw_law {R} [AddCommMonoid R] {gy gx g : Tensor R} {ids : List Nat} {dim : Nat} (hy : WF gy.shape)
    (hx : WF gx.shape) (hlen : ids.length < W) (hbx : gx.shape.batch = 1) (h : pickBw gy ids dim gx = .ok g) :
    let idOf := fun b => ids.getD (b * b2n (ids.length > 1)) 0
    (∀ b, b < gy.shape.batch → ∃ gb, pickBw (sampleT gy b) [idOf b] dim (zeroLike gx) = .ok gb) ∧
    ∀ j, g.data j = gx.data j +
      ∑ b ∈ range gy.shape.batch, dataOr0 (pickBw (sampleT gy b) [idOf b] dim (zeroLike gx)) j := by
  intro idOf
  obtain ⟨_, _, m, hp, _, rfl⟩ := pickBw_inv h
  obtain ⟨_, hpos, hcomp, hids, hgb, hgg, rfl, _, _⟩ := Front.pickBw_plan hy hx hlen hp
  have hmem : ∀ b, b < gy.shape.batch → idOf b ∈ ids := by
    intro b hb
    rw [hgb] at hb
    have ⟨h1, _⟩ := pick_id_ok (nx := gx.shape.get dim) hpos hcomp hids hb
    rw [show idOf b = ids[b * b2n (ids.length > 1)] from (List.getElem_eq_getD 0).symm]
    exact List.getElem_mem h1
  -- the plan of the call on sample `b`
  let m1 : Nat → Moves := fun b =>
    (pickMoves 1 0 0 (lo gx.shape dim) (lo gx.shape dim * gx.shape.get dim) (up gx.shape dim) [idOf b]).swap
  have hcall : ∀ b, b < gy.shape.batch → pickBw (sampleT gy b) [idOf b] dim (zeroLike gx) =
      .ok ⟨gx.shape, scatterAdd (m1 b).didx (m1 b).sidx (fun i => gy.data (i + gy.shape.volume * b))
        (m1 b).count (fun _ => 0), .here⟩ :=
    fun b hb => pickBw_data_ok (gy := sampleT gy b) (gx := zeroLike gx) (oneSample_wf hy) hx (by simp) rfl rfl
      (Front.pickBw_oneSample hy hx hbx hp (hmem b hb))
  have hv : gy.shape.volume = up gx.shape dim * lo gx.shape dim := by
    rw [(view_of_update hy hgg).volume]; ring
  -- `gx` has no minibatch: its batch stride is 0
  simp only [hbx, if_true, Nat.zero_mul] at hgb ⊢
  rw [hv, hgb] at hcall
  rw [hgb]
  exact Batch.bwd_fold pickBw_folds hcall

theorem batchPickBw_data_ok {R} [Add R] {gy gx : Tensor R} {ids : List Nat} {m : Moves}
    (hy : WF gy.shape) (hx : WF gx.shape) (hlen : ids.length < W) (hl1 : gy.loc = .here) (hl2 : gx.loc = .here)
    (hp : Front.batchPickBw gy.shape gx.shape ids = .ok m) :
    batchPickBw gy ids gx = .ok ⟨gx.shape, scatterAdd m.didx m.sidx gy.data m.count gx.data, .here⟩ := by
  have ⟨hb, hle⟩ := C11.Move.Kernel.batch_pick_bw_in_bounds hy hx hlen hp
  refine guarded_ok (xs := [gy, gx]).mpr ⟨⟨hl1, hl2, trivial⟩, bind_ok.mpr ⟨m, hp, ?_⟩⟩
  rw [if_neg (Nat.not_lt.mpr hle)]
  exact runAdd_ok hb

/-- **batch_pick_bw** (the accumulator keeps its minibatch; several samples of `gy`
may go to the same sample of `gx`): `gx` plus the sum over the samples `b` of `gy`
of what `batch_pick_bw` on that sample with the single id `ids[b]` adds. -/
theorem Batch.batch_pick_bw_law {R} [AddCommMonoid R] {gy gx g : Tensor R} {ids : List Nat} (hy : WF gy.shape)
    (hx : WF gx.shape) (hlen : ids.length < W) (h : batchPickBw gy ids gx = .ok g) :
    gy.shape.batch = ids.length ∧
    (∀ b, b < ids.length → ∃ gb, batchPickBw (sampleT gy b) [ids.getD b 0] (zeroLike gx) = .ok gb) ∧
    ∀ j, g.data j = gx.data j +
      ∑ b ∈ range ids.length, dataOr0 (batchPickBw (sampleT gy b) [ids.getD b 0] (zeroLike gx)) j := by
  obtain ⟨_, _, m, hp, _, rfl⟩ := batchPickBw_inv h
  obtain ⟨_, _, hgb, hgg, rfl, _, _⟩ := Front.batchPickBw_plan hy hx hlen hp
  have hcall : ∀ b, b < ids.length → batchPickBw (sampleT gy b) [ids.getD b 0] (zeroLike gx) =
      .ok ⟨gx.shape, scatterAdd (batchPickMoves 1 gx.shape.volume [ids.getD b 0]).swap.didx
        (batchPickMoves 1 gx.shape.volume [ids.getD b 0]).swap.sidx (fun i => gy.data (i + gy.shape.volume * b))
        (batchPickMoves 1 gx.shape.volume [ids.getD b 0]).swap.count (fun _ => 0), .here⟩ := by
    intro b hb
    have hmem : ids.getD b 0 ∈ ids := by
      rw [← List.getElem_eq_getD (h := hb) 0]; exact List.getElem_mem hb
    obtain ⟨m', hm', rfl⟩ := Front.batchPickBw_oneSample hx hp hmem
    exact batchPickBw_data_ok (gy := sampleT gy b) (gx := zeroLike gx) (oneSample_wf hy) hx (by simp) rfl rfl hm'
  rw [volume_eq_of_get hy hx hgg] at hcall
  exact ⟨hgb, Batch.bwd_fold batchPickBw_folds hcall⟩

theorem batchSliceBw_data_ok {R} [Add R] {gy gx : Tensor R} {offset : Nat} {m : Moves}
    (hy : WF gy.shape) (hx : WF gx.shape) (hl1 : gy.loc = .here) (hl2 : gx.loc = .here)
    (hp : Front.batchSliceBw gy.shape gx.shape offset = .ok m) :
    batchSliceBw gy offset gx = .ok ⟨gx.shape, scatterAdd m.didx m.sidx gy.data m.count gx.data, .here⟩ :=
  guarded_ok (xs := [gy, gx]).mpr
    ⟨⟨hl1, hl2, trivial⟩, bind_ok.mpr ⟨m, hp, runAdd_ok (C11.Move.Kernel.batch_slice_bw_in_bounds hy hx hp)⟩⟩

/-- **batch_slice_bw**: `gx` plus the sum over the samples `b` of `gy` of what
`batch_slice_bw` on that sample with offset `offset + b` adds. -/
theorem Batch.batch_slice_bw_law {R} [AddCommMonoid R] {gy gx g : Tensor R} {offset : Nat} (hy : WF gy.shape)
    (hx : WF gx.shape) (hoff : offset < W) (h : batchSliceBw gy offset gx = .ok g) :
    offset + gy.shape.batch ≤ gx.shape.batch ∧
    (∀ b, b < gy.shape.batch → ∃ gb, batchSliceBw (sampleT gy b) (offset + b) (zeroLike gx) = .ok gb) ∧
    ∀ j, g.data j = gx.data j +
      ∑ b ∈ range gy.shape.batch, dataOr0 (batchSliceBw (sampleT gy b) (offset + b) (zeroLike gx)) j := by
  obtain ⟨_, _, m, hp, _, rfl⟩ := bw_inv h
  obtain ⟨_, hle, hvol, rfl, _, _⟩ := Front.batchSliceBw_plan hy hx hp
  have hcall : ∀ b, b < gy.shape.batch → batchSliceBw (sampleT gy b) (offset + b) (zeroLike gx) =
      .ok ⟨gx.shape, scatterAdd (batchSliceBwMoves gx.shape.volume 1 (offset + b)).didx
        (batchSliceBwMoves gx.shape.volume 1 (offset + b)).sidx (fun i => gy.data (i + gy.shape.volume * b))
        (batchSliceBwMoves gx.shape.volume 1 (offset + b)).count (fun _ => 0), .here⟩ :=
    fun b hb => batchSliceBw_data_ok (gy := sampleT gy b) (gx := zeroLike gx) (oneSample_wf hy) hx rfl rfl
      (Front.batchSliceBw_oneSample hy hx hp hb)
  rw [hvol] at hcall
  -- `volume * (offset + b)` does not wrap
  have hfit : ∀ b, b < gy.shape.batch → gx.shape.volume * (offset + b) < W := fun b hb =>
    Nat.lt_of_le_of_lt (Nat.mul_le_mul_left _ (by omega)) hx.fits
  exact ⟨hle, Batch.bwd_fold (batchSliceBw_folds hfit hy.bpos) hcall⟩

theorem Batch.flip_bw_law {R} [AddCommMonoid R] {gy gx g : Tensor R} {dim : Nat} (hy : WF gy.shape) (hx : WF gx.shape)
    (h : flipBw gy dim gx = .ok g) :
    gy.shape.batch = gx.shape.batch ∧
    ∃ g0, flipBw gy dim (zeroLike gx) = .ok g0 ∧ ∀ j, g.data j = gx.data j + g0.data j := by
  obtain ⟨⟨hl1, _⟩, h⟩ := guarded_ok (xs := [gy, gx]).mp h
  obtain ⟨m, hF, h⟩ := bind_ok.mp h
  obtain ⟨hb, rfl⟩ := runAdd_inv h
  exact ⟨(Front.flipBw_plan hy hx hF).1, _, guarded_ok (xs := [gy, zeroLike gx]).mpr ⟨⟨hl1, rfl, trivial⟩, bind_ok.mpr ⟨m, hF, runAdd_ok (gx := zeroLike gx) hb⟩⟩,
    fun j => scatterAdd_zero_split _ _ _ _ _ _⟩

theorem Batch.permute_dims_bw_law {R} [AddCommMonoid R] {x y gy gx g : Tensor R} {perm : List Nat} (hx : WF x.shape)
    (hy : WF y.shape) (hgy : WF gy.shape) (hgx : WF gx.shape) (h : permuteBw x y gy perm gx = .ok g) :
    gy.shape.batch = gx.shape.batch ∧
    ∃ g0, permuteBw x y gy perm (zeroLike gx) = .ok g0 ∧ ∀ j, g.data j = gx.data j + g0.data j := by
  obtain ⟨⟨hl1, hl2, hl3, _⟩, h⟩ := guarded_ok (xs := [x, y, gy, gx]).mp h
  obtain ⟨m, hF, h⟩ := bind_ok.mp h
  obtain ⟨hb, rfl⟩ := runAdd_inv h
  obtain ⟨m', hFw, _, e1, e2⟩ := permuteBw_plan hx hy hgy hgx hF
  have hbatch : gy.shape.batch = gx.shape.batch := by
    rw [e2, e1]; exact (permuteFw_plan hx hFw).2.2.2.2.1
  exact ⟨hbatch, _, guarded_ok (xs := [x, y, gy, zeroLike gx]).mpr
      ⟨⟨hl1, hl2, hl3, rfl, trivial⟩, bind_ok.mpr ⟨m, hF, runAdd_ok (gx := zeroLike gx) hb⟩⟩,
    fun j => scatterAdd_zero_split _ _ _ _ _ _⟩

theorem Batch.transpose_bw_law {R} [AddCommMonoid R] {x y gy gx g : Tensor R} {raw : Nat → R} (hx : WF x.shape)
    (hgy : WF gy.shape) (hgx : WF gx.shape) (h : transposeBw x y gy gx raw = .ok g) :
    gy.shape.batch = gx.shape.batch ∧
    ∃ g0, transposeBw x y gy (zeroLike gx) raw = .ok g0 ∧ ∀ j, g.data j = gx.data j + g0.data j := by
  obtain ⟨⟨hl1, hl2, hl3, _⟩, h⟩ := guarded_ok (xs := [x, y, gy, gx]).mp h
  obtain ⟨u, hG, h⟩ := bind_ok.mp h
  obtain ⟨t, hT, h⟩ := bind_ok.mp h
  obtain ⟨hb, rfl⟩ := runAdd_inv h
  obtain ⟨_, ⟨_, gxb⟩, ⟨_, gyb⟩, _, _, yb⟩ := Front.transposeBwGuard_plan hx hG
  exact ⟨by rw [← gyb, yb, gxb], _, guarded_ok (xs := [x, y, gy, zeroLike gx]).mpr
      ⟨⟨hl1, hl2, hl3, rfl, trivial⟩, bind_ok.mpr ⟨u, hG, bind_ok.mpr ⟨t, hT, runAdd_ok (gx := zeroLike gx) hb⟩⟩⟩,
    fun j => scatterAdd_zero_split _ _ _ _ _ _⟩

theorem Batch.max_bw_law {R} [AddCommMonoid R] [DecidableEq R] {x y gy gx g : Tensor R} {dim : Nat} (hx : WF x.shape)
    (hy : WF y.shape) (hgy : WF gy.shape) (hgx : WF gx.shape) (h : maxBw x y gy dim gx = .ok g) :
    gy.shape.batch = gx.shape.batch ∧
    ∃ g0, maxBw x y gy dim (zeroLike gx) = .ok g0 ∧ ∀ j, g.data j = gx.data j + g0.data j := by
  obtain ⟨⟨hl1, hl2, hl3, _⟩, h⟩ := guarded_ok (xs := [x, y, gy, gx]).mp h
  obtain ⟨r, hF, h⟩ := bind_ok.mp h
  split at h
  · cases h
  rename_i hchk
  cases h
  exact ⟨(Front.maxBw_plan hx hy hgy hgx hF).2.1, _, guarded_ok (xs := [x, y, gy, zeroLike gx]).mpr
      ⟨⟨hl1, hl2, hl3, rfl, trivial⟩, bind_ok.mpr ⟨r, hF, if_neg hchk⟩⟩,
    fun j => selectAdd_zero_split _ _ _ _ _ _ _⟩

theorem Batch.min_bw_law {R} [AddCommMonoid R] [DecidableEq R] {x y gy gx g : Tensor R} {dim : Nat} (hx : WF x.shape)
    (hy : WF y.shape) (hgy : WF gy.shape) (hgx : WF gx.shape) (h : minBw x y gy dim gx = .ok g) :
    gy.shape.batch = gx.shape.batch ∧
    ∃ g0, minBw x y gy dim (zeroLike gx) = .ok g0 ∧ ∀ j, g.data j = gx.data j + g0.data j :=
  Batch.max_bw_law hx hy hgy hgx h

end Primitiv.C03.Move
