/-
C20 — C API: status-code protocol and equivalence with the C++ API.

Table theorems: `decide` over the WHOLE table that /verif/translate/capi.py
regenerates from /repo's primitiv/c/**/*.cc on every run (`Gen/CApi.lean`).
Protocol theorems: for every history of calls / every buffer, over the model of
`Model/CApi.lean` instantiated with the facts the translator read off
`ErrorHandler` and the three helpers of internal.h.

The equivalence of the forwarded call with the C++ API on valid arguments is
not a theorem: it is checked by the correspondence harness (see props/C20.py,
`chk.trusted`).
-/
import PrimitivModel.Gen.CApi
import PrimitivModel.Lemmas.CApi

namespace Primitiv.C20
open Primitiv.CApi Primitiv.Gen.CApi

/-- Every definition, every parameter use, every handler, the ErrorHandler
members and the three helpers were inside the translator's subset; every
`extern "C"` declaration of the headers has a definition with the same
parameter types and vice versa. -/
theorem CApi.no_unsupported :
    (∀ w ∈ table, w.supported = true) ∧ undefinedDecls = [] ∧ (∀ h ∈ helperSpecs, h.supported = true)
      ∧ handlerSpec.notes = [] := by
  decide +kernel

/-- Every entry point is a function-try-block whose only handler is
`catch (const std::exception &e) { return ErrorHandler::get_instance().handle(e); }`
and whose block ends in its only `return PRIMITIV_C_OK;`. -/
theorem CApi.all_try_blocks : ∀ w ∈ table, w.tryBlockOk = true := by
  decide +kernel

/-- The handler of every entry point catches `const std::exception &`: every
standard exception (std::out_of_range from a map lookup, std::logic_error,
std::bad_alloc, …), not only primitiv::Error, becomes PRIMITIV_C_ERROR with
its `what()` as the message. -/
theorem CApi.handler_catches_std_exception : ∀ w ∈ table, w.hasTry = true ∧ w.handler = .stdException := by
  intro w hw
  have h := CApi.all_try_blocks w hw
  simp only [Wrapper.tryBlockOk, Bool.and_eq_true, beq_iff_eq] at h
  exact h.1

/-- Every dereferenced pointer parameter, and every dereferenced element of a
pointer array, is null-checked first. -/
theorem CApi.deref_implies_checked : ∀ w ∈ table, w.derefChecked = true := by
  decide +kernel

/-- Null checks are applied to pointers only: no by-value argument is rejected
for being 0. -/
theorem CApi.only_pointers_checked : ∀ w ∈ table, w.onlyPointersChecked = true := by
  decide +kernel

/-- The null checks precede every other use of the parameters, so a call
rejected for a NULL has had no effect. -/
theorem CApi.checks_first : ∀ w ∈ table, w.checksFirst = true := by
  decide +kernel

/-- Within each statement of a wrapper the parameters are used in the order of
the parameter list: the arguments are passed on in order. -/
theorem CApi.forwarding_in_order : ∀ w ∈ table, w.forwardedInOrder = true := by
  decide +kernel

/-- the table is not empty (distinctness of the names is checked by the
translator: a second definition of a name is an `unsupported` entry) -/
theorem CApi.table_nontrivial : 250 ≤ table.length := by
  decide +kernel

/-- No pattern of NULL pointers / NULL elements / zeros makes any wrapper
dereference NULL (nor rely on `std::string(nullptr)` throwing). -/
theorem CApi.null_never_crashes :
    ∀ w ∈ table, ∀ pat : List ArgPat, w.predict pat ≠ .crash ∧ w.predict pat ≠ .errOther :=
  fun w hw pat => Wrapper.predict_safe w (CApi.deref_implies_checked w hw) pat

/-- A call without NULL pointers is never rejected by the wrapper itself,
whatever the by-value arguments are (0 included): the C++ API decides. -/
theorem CApi.zero_never_rejected :
    ∀ w ∈ table, ∀ pat : List ArgPat,
      (∀ i, pat.getD i .valid = .zero → w.ptrDepthOf i = 0) →
      (∀ i, pat.getD i .valid ≠ .null ∧ pat.getD i .valid ≠ .nullElem) →
      w.predict pat = .pass :=
  fun w hw pat hz hn => Wrapper.predict_pass w (CApi.only_pointers_checked w hw) pat hz hn

theorem CStatus.handler_sound : handlerSpec.sound = true := by decide +kernel

/-- For every history of calls of one thread, starting from a fresh thread: a
failing call returns PRIMITIV_C_ERROR and sets the message to the exception's
`what()`; the message stays until primitivResetStatus (which sets "OK");
succeeding calls return PRIMITIV_C_OK and do not change it; primitivGetMessage
returns the current message. -/
theorem CStatus.protocol (ops : List CStatus.Op) :
    CStatus.run handlerSpec (CStatus.init handlerSpec) ops
      = (⟨CStatus.specMsg ops "OK"⟩, CStatus.specRes ops "OK") :=
  CStatus.run_init handlerSpec CStatus.handler_sound ops

example : CStatus.specRes [.call (some "a"), .call none, .getMessage, .reset, .getMessage] "OK"
    = [.error, .ok, .message "a", .ok, .message "OK"] := by decide

/-- Threads are independent: in every interleaving of the calls of several
threads, each thread's message and each thread's results are those of its own
calls run alone. -/
theorem CStatus.threads_independent (ops : List (Nat × CStatus.Op)) (σ : CStatus.Sts) (t : Nat) :
    (CStatus.runT handlerSpec σ ops).1 t = (CStatus.run handlerSpec (σ t) (CStatus.proj t ops)).1
    ∧ CStatus.resultsOf t ops (CStatus.runT handlerSpec σ ops).2
        = (CStatus.run handlerSpec (σ t) (CStatus.proj t ops)).2 :=
  -- one handler per thread is one of the facts `HandlerSpec.sound` asks for
  have ht : handlerSpec.threadLocal = true := by
    have h := CStatus.handler_sound
    simp only [HandlerSpec.sound, Bool.and_eq_true] at h
    exact h.1.2
  CStatus.runT_proj handlerSpec ht t ops σ

theorem CApi.helpers_sound : ∀ h ∈ helperSpecs, h.sound = true := by decide +kernel

/-- For each of copy_vector_to_array, copy_string_to_array and
move_vector_to_array_of_c_ptrs, for every source, buffer and size: a NULL
buffer yields the required size; a buffer shorter than that is rejected and
left untouched (and `*size` unchanged); a sufficient buffer receives the
contents (followed by the terminator for strings) and the rest of it is
untouched. `term` is what the copy appends (`['\0']` for strcpy, nothing
otherwise). -/
theorem CApi.size_query {α : Type} :
    ∀ h ∈ helperSpecs, ∀ (src term b : List α) (size : Nat),
      term.length = h.writeExtra → b.length = size →
      sizeQuery h src term none size = .ok none (src.length + h.reportExtra)
      ∧ (size < src.length + h.reportExtra → sizeQuery h src term (some b) size = .err (some b) size)
      ∧ (src.length + h.reportExtra ≤ size →
          sizeQuery h src term (some b) size
            = .ok (some (src ++ term ++ b.drop (src.length + h.reportExtra))) size) :=
  fun h hh src term b size ht hb => sizeQuery_contract h (CApi.helpers_sound h hh) src term b size ht hb

example : sizeQuery helper_copy_string_to_array "OK".toList [Char.ofNat 0] (some ['x', 'x', 'x', 'x']) 4
    = .ok (some ['O', 'K', Char.ofNat 0, 'x']) 4 := by decide +kernel
example : sizeQuery helper_copy_string_to_array "OK".toList [Char.ofNat 0] (some ['x', 'x']) 2
    = .err (some ['x', 'x']) 2 := by decide +kernel

-- instances of the hypotheses above; they come last because they name rows of the table

-- primitivSetOptimizerIntConfig(optimizer, key, 0): no NULL, a zero by-value argument
example : w_primitivSetOptimizerIntConfig.predict [.valid, .valid, .zero] = .pass := by decide +kernel
-- a NULL in a checked position is reported by name
example : w_primitivAddModelsToOptimizer.predict [.null, .valid, .valid] = .errNull "optimizer" := by decide +kernel
example : w_primitivAddParametersToOptimizer.predict [.valid, .nullElem, .valid] = .errNull "params[i]" := by
  decide +kernel
-- NULL in a position that is nullable by contract is passed on
example : w_primitivApplyNodeInput.predict [.valid, .valid, .valid, .null, .null, .valid] = .pass := by decide +kernel

end Primitiv.C20
