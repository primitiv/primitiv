import PrimitivModel.Lemmas.Optim
/-
C12 — optimizers implement their update rules over arbitrary training histories.

Objects: `Gen/Optimizers.lean` (generated from optimizer_impl.{h,cc} and
optimizer.{h,cc} on every run), `Model/Optimizer.lean` (hand-written
`Optimizer::update`, `add`, `reset_gradients`, settings), `Spec/Optimizers.lean`
(the textbook equations and what `update()` must do).  All statements are over
an arbitrary linearly ordered field `K` (ℝ where the square root matters);
float32 rounding and the float evaluation of `std::pow` are outside (measured
by the correspondence run, see props/C12.py).

The theorems of this file are the obligations of the property.  Several are
one-line instances of lemmas of Lemmas/Optim.lean: the lemma is the form the
later proofs use, the theorem here the form the property is read in.  An
`example` after a theorem shows that its hypotheses can be met.
-/
-- every statement of a section is over the same classes, whether or not it needs all of them
set_option linter.unusedSectionVars false
namespace Primitiv.C12
open Primitiv.Opt Primitiv.Gen.Opt

section field
variable {K : Type} [Field K]

theorem Opt.sgd_update_spec (F : Fns K) (η s : K) (e : Nat) (g θ : K) :
    sgd_update F η s e g θ = (Spec.sgd η s g θ, []) :=
  updateElem_eq_spec F s e g θ .SGD [η] [] rfl rfl

theorem Opt.momentumsgd_update_spec (F : Fns K) (η μ s : K) (e : Nat) (g θ m : K) :
    momentumsgd_update F η μ s e g θ m =
      ((Spec.momentum η μ s g θ m).1, [(Spec.momentum η μ s g θ m).2]) :=
  updateElem_eq_spec F s e g θ .MomentumSGD [η, μ] [m] rfl rfl

theorem Opt.adagrad_update_spec (F : Fns K) (η ε s : K) (e : Nat) (g θ m : K) :
    adagrad_update F η ε s e g θ m =
      ((Spec.adagrad F η ε s g θ m).1, [(Spec.adagrad F η ε s g θ m).2]) :=
  updateElem_eq_spec F s e g θ .AdaGrad [η, ε] [m] rfl rfl

theorem Opt.rmsprop_update_spec (F : Fns K) (η a ε s : K) (e : Nat) (g θ m : K) :
    rmsprop_update F η a ε s e g θ m =
      ((Spec.rmsprop F η a ε s g θ m).1, [(Spec.rmsprop F η a ε s g θ m).2]) :=
  updateElem_eq_spec F s e g θ .RMSProp [η, a, ε] [m] rfl rfl

/-- in particular `m2` is updated before `dx` is formed and `m1` after -/
theorem Opt.adadelta_update_spec (F : Fns K) (ρ ε s : K) (e : Nat) (g θ m1 m2 : K) :
    adadelta_update F ρ ε s e g θ m1 m2 =
      ((Spec.adadelta F ρ ε s g θ m1 m2).1,
       [(Spec.adadelta F ρ ε s g θ m1 m2).2.1, (Spec.adadelta F ρ ε s g θ m1 m2).2.2]) :=
  updateElem_eq_spec F s e g θ .AdaDelta [ρ, ε] [m1, m2] rfl rfl

/-- bias correction with `epoch + 1` (as a 32-bit counter) -/
theorem Opt.adam_update_spec (F : Fns K) (a β1 β2 ε s : K) (e : Nat) (g θ m1 m2 : K) :
    adam_update F a β1 β2 ε s e g θ m1 m2 =
      ((Spec.adam F a β1 β2 ε s ((e + 1) % 4294967296) g θ m1 m2).1,
       [(Spec.adam F a β1 β2 ε s ((e + 1) % 4294967296) g θ m1 m2).2.1,
        (Spec.adam F a β1 β2 ε s ((e + 1) % 4294967296) g θ m1 m2).2.2]) :=
  updateElem_eq_spec F s e g θ .Adam [a, β1, β2, ε] [m1, m2] rfl rfl

/-- `npow` (Model/Scalar.lean: repeated multiplication, what the driver puts for
`std::pow` with a natural exponent) is the power of the field: an instance of
`hF` in `Opt.adam_bias_correction` -/
theorem Opt.npow_eq_pow (b : K) (n : Nat) : npow b n = b ^ n := by
  induction n with
  | zero => simp [npow]
  | succ n ih => simp [npow, ih, pow_succ]

/-- Adam written out: when `std::pow` is the power and the epoch counter does
not wrap, the new value is `θ − (s·α)·( m̂₁ / (√m̂₂ + ε) )` with
`m̂ᵢ = mᵢ' / (1 − βᵢ^(epoch+1))`. -/
theorem Opt.adam_bias_correction (F : Fns K) (hF : ∀ b n, F.pow b n = b ^ n) (a β1 β2 ε s : K) (e : Nat)
    (he : e + 1 < 4294967296) (g θ m1 m2 : K) :
    (adam_update F a β1 β2 ε s e g θ m1 m2).1 =
      θ - (s * a) * (((β1 * m1 + (1 - β1) * g) / (1 - β1 ^ (e + 1))) /
        (F.sqrt ((β2 * m2 + (1 - β2) * (g * g)) / (1 - β2 ^ (e + 1))) + ε)) := by
  rw [Opt.adam_update_spec, Nat.mod_eq_of_lt he]
  simp only [Spec.adam, hF]

example : ∃ F : Fns ℚ, ∀ b n, F.pow b n = b ^ n := ⟨⟨fun x => x, fun b n => b ^ n, fun _ => 0⟩, fun _ _ => rfl⟩

/-- every algorithm's dispatcher entry, for hyper-parameter and statistic
lists of the algorithm's arity -/
theorem Opt.updateElem_spec (F : Fns K) (k : Kind) (fields : List K) (s : K) (e : Nat) (g θ : K) (st : List K)
    (hf : fields.length = arity k) (hs : st.length = (statsUsed k).length) :
    updateElem F k fields s e g θ st = Spec.elem F k fields s e g θ st :=
  updateElem_eq_spec F s e g θ k fields st hf hs

example : ([1, 2] : List ℚ).length = arity .MomentumSGD ∧ ([0] : List ℚ).length = (statsUsed .MomentumSGD).length := by
  decide

end field

/-- AdaDelta in the paper's RMS form: `Δ = RMS[Δx] / RMS[g] · g` with
`RMS[x] = √(E[x²] + ε)`, over ℝ with the true square root. -/
theorem Opt.adadelta_update_spec_real (F : Fns ℝ) (hF : F.sqrt = Real.sqrt) (ρ ε s : ℝ) (e : Nat) (g θ m1 m2 : ℝ)
    (h1 : 0 ≤ m1 + ε) :
    (adadelta_update F ρ ε s e g θ m1 m2).1 =
      θ - s * (Real.sqrt (m1 + ε) / Real.sqrt (ρ * m2 + (1 - ρ) * (g * g) + ε) * g) := by
  rw [Opt.adadelta_update_spec]
  simp only [Spec.adadelta, hF, Real.sqrt_div h1]

example : (0 : ℝ) ≤ 0 + 1e-6 := by norm_num

section ordered
variable {K : Type} [Field K] [LinearOrder K] [IsStrictOrderedRing K]

/-- the hand-written `Optimizer::update` with the generated rules does what
the specification says: decay, then clipping, then the equations, then
`epoch + 1` -/
theorem Opt.update_spec (F : Fns K) (s : State K) (hf : s.o.fields.length = arity s.o.kind) :
    updateCore F s = Spec.updateCore F s := updateCore_eq_spec F s hf

example : ∃ s : State ℚ, s.o.fields.length = arity s.o.kind :=
  ⟨{ o := { kind := .Adam, fields := [1, 2, 3, 4], base := Base.init, reg := [0] }, ps := [] }, by decide⟩

/-- weight decay comes first and the clipping factor is computed from the
decayed gradients: after `update()` the gradient of every registered parameter
is `clipFactor(‖g + λθ‖²) · (g + λθ)` -/
theorem Opt.decay_then_clip (F : Fns K) (s : State K) :
    regGrads s.o.reg (updateCore F s).ps =
      (decayedGrads s).map (fun g => g.map (fun x =>
        Spec.clipFactor F s.o.base.clip_threshold_ (sqNorm (decayedGrads s)) * x)) :=
  grads_after_update F s

/-- gradients are unchanged by clipping when it is off or the norm is within the threshold -/
theorem Opt.clip_unchanged (F : Fns K) (s : State K)
    (h : ¬ (0 < s.o.base.clip_threshold_ ∧
      s.o.base.clip_threshold_ * s.o.base.clip_threshold_ < sqNorm (decayedGrads s))) :
    regGrads s.o.reg (updateCore F s).ps = decayedGrads s := by
  rw [grads_after_update]
  simp [Spec.clipFactor, h]

example : ¬ ((0 : ℚ) < 2 ∧ (2 : ℚ) * 2 < 3) := by norm_num

theorem Opt.update_epoch_succ (F : Fns K) (s : State K) :
    (updateCore F s).o.base.epoch_ = (s.o.base.epoch_ + 1) % 4294967296 ∧
    (s.o.base.epoch_ + 1 < 4294967296 → (updateCore F s).o.base.epoch_ = s.o.base.epoch_ + 1) := by
  refine ⟨rfl, fun h => ?_⟩
  show (s.o.base.epoch_ + 1) % 4294967296 = _
  exact Nat.mod_eq_of_lt h

/-- `update()` changes nothing but the epoch in the optimizer object -/
theorem Opt.update_keeps_settings (F : Fns K) (s : State K) :
    (updateCore F s).o.kind = s.o.kind ∧ (updateCore F s).o.fields = s.o.fields ∧
    (updateCore F s).o.reg = s.o.reg ∧
    (updateCore F s).o.base.lr_scale_ = s.o.base.lr_scale_ ∧
    (updateCore F s).o.base.l2_strength_ = s.o.base.l2_strength_ ∧
    (updateCore F s).o.base.clip_threshold_ = s.o.base.clip_threshold_ :=
  ⟨rfl, rfl, rfl, rfl, rfl, rfl⟩

/-- a parameter that is not registered is not touched by `update()` -/
theorem Opt.touches_only_registered (F : Fns K) (s : State K) (i : Nat) (hi : i ∉ s.o.reg) :
    (updateCore F s).ps[i]? = s.ps[i]? := updateCore_unregistered F s i hi

/-- over any history: a parameter that was never passed to `add` (and whose
gradient the user did not write) is exactly as it was -/
theorem Opt.history_touches_only_registered (F : Fns K) (h : List (Op K)) (s : State K) (i : Nat)
    (hi : i ∉ s.o.reg) (hm : ∀ op ∈ h, ¬ op.mentions i) :
    (run (exec F) h s).1.ps[i]? = s.ps[i]? := run_unregistered F h s i hi hm

example : ∀ op ∈ ([.add 0, .update, .setLr 2, .setGrad 0 [1], .update, .reset] : List (Op ℚ)), ¬ op.mentions 1 := by
  intro op h
  simp only [List.mem_cons, List.not_mem_nil, or_false] at h
  rcases h with rfl | rfl | rfl | rfl | rfl | rfl <;> simp [Op.mentions]

/-- adding a registered parameter again has no effect at all -/
theorem Opt.add_idempotent (s : State K) (i : Nat) (h : i ∈ s.o.reg) : add s i = (s, true) := by
  simp [add, h]

/-- … in particular immediately after a successful `add`, also mid-history -/
theorem Opt.add_twice (s : State K) (i : Nat) (h : (add s i).2 = true) :
    add (add s i).1 i = ((add s i).1, true) := by
  apply Opt.add_idempotent
  unfold add at h ⊢
  by_cases hr : i ∈ s.o.reg
  · simp [hr]
  · simp only [hr, if_false] at h ⊢
    cases hp : s.ps[i]? with
    | none => simp [hp] at h
    | some p =>
      simp only [hp] at h ⊢
      by_cases hc : (configure s.o.kind p).2 = true
      · simp [hc]
      · simp [hc] at h

/-- statistics are created only if absent: `configure_parameter`, which `add`
runs on the parameter, appends to a valid parameter zero statistics for exactly
the missing names and keeps the existing ones -/
theorem Opt.add_keeps_stats (k : Kind) (p : Param K) (hv : p.valid = true) :
    configure k p = ({ p with stats := p.stats ++
      ((Spec.statNames k).filter (fun n => !p.hasStat n)).map (fun n => (n, zeros p.value.length)) }, true) :=
  configure_valid k p hv

/-- a failed `add` (invalid parameter) leaves optimizer and parameters as they
were: `add_inner()` configures the parameter before it registers it
(patches/fix-optimizer-add-order.diff).  `hk`: the exception comes from the
creation of the first statistic; `SGD::configure_parameter` creates none, and
with SGD `add` accepts an invalid parameter. -/
theorem Opt.add_invalid_rejected (s : State K) (i : Nat) (p : Param K) (hp : s.ps[i]? = some p)
    (hv : p.valid = false) (hk : statNames s.o.kind ≠ []) (hr : i ∉ s.o.reg) : add s i = (s, false) :=
  add_invalid s i p hp hv hk hr

example : statNames .Adam ≠ [] := by decide

theorem Opt.negative_settings_rejected (F : Fns K) (s : State K) (x : K) (hx : x < 0) :
    exec F (.setLr x) s = (s, false) ∧ exec F (.setL2 x) s = (s, false) ∧ exec F (.setClip x) s = (s, false) := by
  simp [exec, withBase, Base.set_learning_rate_scaling, Base.set_weight_decay, Base.set_gradient_clipping, hx]

theorem Opt.nonneg_settings_accepted (F : Fns K) (s : State K) (x : K) (hx : 0 ≤ x) :
    let b := s.o.base
    exec F (.setLr x) s = withBase s (some { b with lr_scale_ := x }) ∧
    exec F (.setL2 x) s = withBase s (some { b with l2_strength_ := x }) ∧
    exec F (.setClip x) s = withBase s (some { b with clip_threshold_ := x }) := by
  have h : ¬ x < 0 := not_lt.mpr hx
  simp [exec, withBase, Base.set_learning_rate_scaling, Base.set_weight_decay, Base.set_gradient_clipping, h]

example : (-1 : ℚ) < 0 ∧ (0 : ℚ) ≤ 0 := by norm_num

/-- Over every history of {set gradient, update, reset, change settings
(setters and `set_configs`), add}: the model of the code (generated rules +
hand-written `update`/`add`/setters) and the specification produce the same
states and the same outcome (ok / exception) for every call.  `Inv1`: the
hyper-parameter list has the algorithm's arity, and the store holds no invalid
parameter if the algorithm is SGD (there the code accepts what the
specification rejects, see `Opt.add_invalid_rejected`). -/
theorem Opt.history_refines_spec (F : Fns K) (h : List (Op K)) (s : State K) (hI : Inv1 s) :
    run (exec F) h s = run (Spec.exec F) h s := run_eq_spec F h s hI

/-- the hypothesis is an invariant of every history -/
theorem Opt.history_invariant (F : Fns K) (h : List (Op K)) (s : State K) (hI : Inv1 s) :
    Inv1 (run (exec F) h s).1 := Inv1_run F h s hI

example : Inv1 (
    { o := { kind := .SGD, fields := [1 / 2], base := Base.init, reg := [] },
      ps := [{ valid := true, value := [1], grad := [0], stats := [] }] } : State ℚ) := by
  refine ⟨by decide, Or.inr ?_⟩
  simp [valids]

end ordered

/-- over ℝ with the true square root: after `update()` with a positive
threshold the joint L2 norm of all registered gradients is at most the threshold -/
theorem Opt.clip_norm (F : Fns ℝ) (hF : F.sqrt = Real.sqrt) (s : State ℝ) (hc : 0 < s.o.base.clip_threshold_) :
    Real.sqrt (sqNorm (regGrads s.o.reg (updateCore F s).ps)) ≤ s.o.base.clip_threshold_ := by
  rw [Real.sqrt_le_left hc.le, sq]
  exact sqNorm_after_update_le F (fun x hx => hF ▸ Real.mul_self_sqrt hx) s hc

example : ∃ F : Fns ℝ, F.sqrt = Real.sqrt := ⟨⟨Real.sqrt, fun b n => b ^ n, fun _ => 0⟩, rfl⟩

/-- everything was inside the translated subset; `update_parameter` reads
exactly the statistics `configure_parameter` creates, every creation is
guarded by `has_stats`, and the names and arities are the documented ones -/
theorem Opt.table_consistent :
    (∀ k ∈ Kind.all, (table k).unsupported = [] ∧ statsUsed k = statNames k ∧ statGuarded k = true ∧
      statNames k = Spec.statNames k ∧ arity k = Spec.arity k ∧ (table k).getKeys.map (·.1) = Spec.keys k) ∧
    baseUnsupported = [] := by
  decide

end Primitiv.C12
