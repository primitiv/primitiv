import PrimitivModel.Model.Registry
import PrimitivModel.Spec.Registry
import PrimitivModel.Lemmas.Registry
/-
C16 — Model registry: unique names, acyclic hierarchy, exact enumeration.

Every theorem is about the executable model Model/Registry.lean (the
definitions the driver `drv_registry` runs), for all heaps, names, paths and
histories; vocabulary (`Reg.inv`, `ResolvesP`, `ResolvesM`, `Reg.Reach`,
`NameUsed`, `Op`, `Reg.run`) is in Spec/Registry.lean, helper lemmas in
Lemmas/Registry.lean.
-/
namespace Primitiv.Registry
open Std

/-! The registry of the examples, a diamond: models 0..3, parameters 0 (valid), 1 (valid), 2 (invalid);
`0 -a-> 1`, `0 -b-> 2`, `1 -s-> 3`, `2 -s-> 3`, parameter 0 is `w` of model 3,
parameter 1 is `""` (the empty name) of model 0. -/
def nA : Name := [97]
def nB : Name := [98]
def nS : Name := [115]
def nW : Name := [119]

def diamondOps : List Op :=
  [.newModel, .newModel, .newModel, .newModel, .newParam true, .newParam true, .newParam false,
   .addSub 0 nA 1, .addSub 0 nB 2, .addSub 1 nS 3, .addSub 2 nS 3, .addParam 3 nW 0, .addParam 0 [] 1,
   -- rejected: cycle of length 3, self, duplicate name, duplicate object
   .addSub 3 nA 0, .addSub 1 nA 1, .addParam 0 nA 0, .addSub 0 nS 1]

def diamond : Reg := Reg.run diamondOps

/-- `Reg.inv` (containers mutually consistent, names unique across parameters
and submodels, submodels live, hierarchy acyclic) holds initially and is
preserved by every operation, accepted or rejected: it holds after every
history. -/
theorem Reg.inv_history (ops : List Op) : (Reg.run ops).inv :=
  Reg.inv_foldl Reg.inv_empty ops

/-- a single accepted `add`, for callers that have an invariant state at hand -/
theorem Reg.inv_addParam_step {r r' : Reg} (hi : r.inv) {m : MId} (hm : m < r.size) {n : Name} {p : PId}
    (h : r.addParam m n p = .ok r') : r'.inv := (Reg.addParam_ok hi hm h).1

/-- the same for a submodel, which has to be a model of the registry -/
theorem Reg.inv_addSub_step {r r' : Reg} (hi : r.inv) {m : MId} (hm : m < r.size) {n : Name} {c : MId} (hc : c < r.size)
    (h : r.addSub m n c = .ok r') : r'.inv := (Reg.addSub_ok hi hm h).1 hc

example : diamond.inv := Reg.inv_history _
example : diamond.size = 4 := by decide +kernel
-- an accepted add that changes the registry
example : (match diamond.addSub 1 nB 2 with | .ok r' => decide (r' ≠ diamond) | _ => false) = true := by decide +kernel

/-- A model never contains itself, directly or transitively. -/
theorem Reg.never_contains_itself {r : Reg} (hi : r.inv) (m : MId) : ¬ r.Reach m m :=
  Reg.not_reach_self hi m

/-- Under the invariant the traversals return within the fuel `number of
models`: termination is a consequence of acyclicity (a descending chain of
models cannot be longer than the heap), not an assumption. -/
theorem Reg.fuel_suffices {r : Reg} (hi : r.inv) {m : MId} (hm : m < r.size) (t : MId) :
    (∃ b, Reg.hasSub r t r.size m = .ok b) ∧ (∃ l, r.allParameters m = .ok l) :=
  have h0 := Nat.zero_lt_of_lt hm
  ⟨(Reg.hasSub_spec hi h0 t m).imp fun _ h => h.1, (Reg.getAll_spec hi h0 m).imp fun _ h => h.1⟩

example : Reg.hasSub diamond 3 diamond.size 0 = .ok true := by decide +kernel
/-- with less fuel than the depth the model reports the unbounded recursion -/
example : Reg.hasSub diamond 3 1 0 = .crash := by decide +kernel

/-- After any history no `add` crashes, whatever it is asked to add where (a
submodel being a model of the registry); the only crash of `add` would be an
unbounded `has_submodel`. -/
theorem Reg.add_never_crashes (ops : List Op) (m : MId) (n : Name) :
    (∀ p, (Reg.run ops).addParam m n p ≠ .crash) ∧
    (∀ c, c < (Reg.run ops).size → (Reg.run ops).addSub m n c ≠ .crash) :=
  ⟨fun p => (Reg.addParam_decides _ m n p).ne_crash,
   fun _ hc => (Reg.addSub_decides_of_inv (Reg.inv_history ops) m n hc).ne_crash⟩

/-- Adding the identical object under the identical name again returns
normally and leaves the registry as it is. -/
theorem Reg.readd_noop {r : Reg} (m : MId) (n : Name) :
    (∀ p, ResolvesP r m [n] p → r.addParam m n p = .ok r) ∧
    (∀ c, ResolvesM r m [n] c → r.addSub m n c = .ok r) :=
  -- the first check of either `add`
  ⟨fun _ h => if_pos (resolvesP_single.1 h), fun _ h => if_pos (resolvesM_single.1 h)⟩

/-- … in particular right after the add that registered it. -/
theorem Reg.readd_after_add {r r' : Reg} (hi : r.inv) {m : MId} (hm : m < r.size) (n : Name) :
    (∀ p, r.addParam m n p = .ok r' → r'.addParam m n p = .ok r') ∧
    (∀ c, r.addSub m n c = .ok r' → r'.addSub m n c = .ok r') :=
  ⟨fun p h => (Reg.readd_noop m n).1 p (resolvesP_single.2 (Reg.addParam_ok hi hm h).2),
   fun c h => (Reg.readd_noop m n).2 c (resolvesM_single.2 (Reg.addSub_ok hi hm h).2)⟩

example : diamond.addSub 0 nA 1 = .ok diamond := by decide +kernel
example : diamond.addParam 3 nW 0 = .ok diamond := by decide +kernel

/-- Every rejected add leaves the registry unchanged (the error outcome of the
model carries the state the call leaves behind). -/
theorem Reg.reject_unchanged {r r' : Reg} (m : MId) (n : Name) :
    (∀ p, r.addParam m n p = .error r' → r' = r) ∧ (∀ c, r.addSub m n c = .error r' → r' = r) :=
  ⟨fun _ h => Reg.addParam_error h, fun _ h => Reg.addSub_error h⟩

example : diamond.addSub 3 nA 0 = .error diamond := by decide +kernel

/-- Which parameter adds are rejected: exactly those that are not a re-add and
whose name is taken (by a parameter or a submodel) or whose object is already
registered in this model under another name. -/
theorem Reg.add_param_decision {r : Reg} (hi : r.inv) (m : MId) (n : Name) (p : PId) :
    (r.addParam m n p = .error r ↔ ¬ ResolvesP r m [n] p ∧ (NameUsed r m n ∨ ∃ n', ResolvesP r m [n'] p)) ∧
    ((∃ r', r.addParam m n p = .ok r') ↔ ResolvesP r m [n] p ∨ (¬ NameUsed r m n ∧ ¬ ∃ n', ResolvesP r m [n'] p)) := by
  have hwf := hi.wf m
  rw [nameUsed_iff hwf, paramRegistered_iff hwf, resolvesP_single, ← not_or]
  exact (Reg.addParam_decides r m n p).decision

/-- Which submodel adds are rejected: exactly those that are not a re-add and
that add the model to itself, add an ancestor (a cycle of any length), reuse a
name, or add a model already registered in this model. -/
theorem Reg.add_sub_decision {r : Reg} (hi : r.inv) (m : MId) (n : Name) {c : MId} (hc : c < r.size) :
    (r.addSub m n c = .error r ↔
      ¬ ResolvesM r m [n] c ∧ (c = m ∨ r.Reach c m ∨ NameUsed r m n ∨ ∃ n', ResolvesM r m [n'] c)) ∧
    ((∃ r', r.addSub m n c = .ok r') ↔
      ResolvesM r m [n] c ∨ (c ≠ m ∧ ¬ r.Reach c m ∧ ¬ NameUsed r m n ∧ ¬ ∃ n', ResolvesM r m [n'] c)) := by
  have hwf := hi.wf m
  rw [nameUsed_iff hwf, subRegistered_iff hwf, resolvesM_single]
  simpa only [not_or] using (Reg.addSub_decides_of_inv hi m n hc).decision

-- rejected: cycle 3 → 0 (0 is an ancestor of 3), self, name taken, object already a submodel
example : diamond.Reach 0 3 := by
  obtain ⟨b, hb, h⟩ := Reg.hasSub_spec (Reg.inv_history diamondOps) (by decide +kernel) 3 0
  exact h.1 (Res.ok.inj (hb.symm.trans (by decide +kernel)))
example : diamond.addSub 3 nA 0 = .error diamond ∧ diamond.addSub 1 nA 1 = .error diamond ∧
    diamond.addParam 0 nA 0 = .error diamond ∧ diamond.addSub 0 nS 1 = .error diamond := by decide +kernel

/-- `get_all_parameters()` (and `get_trainable_parameters()`, which is the same
function) returns, as a map with strictly increasing keys, exactly the
(path, parameter) pairs that resolve from the model — a parameter reachable
along two paths (a diamond) is listed under each of them. -/
theorem Reg.all_parameters_exact {r : Reg} (hi : r.inv) {m : MId} (hm : m < r.size) :
    ∃ l, r.allParameters m = .ok l ∧ r.trainableParameters m = .ok l ∧ Sorted l ∧
      ∀ path p, (path, p) ∈ l ↔ ResolvesP r m path p := by
  obtain ⟨l, hl, hspec⟩ := Reg.getAll_spec hi (Nat.zero_lt_of_lt hm) m
  exact ⟨l, hl, hl, hspec⟩

example : diamond.allParameters 0 = .ok [([[]], 1), ([nA, nS, nW], 0), ([nB, nS, nW], 0)] := by decide +kernel

/-- `get_parameter(names)` returns `p` exactly when the path resolves to `p`,
and raises an Error (never crashes) for every other list — wrong, partial,
overlong, and the empty one. -/
theorem Reg.lookup_iff (r : Reg) (m : MId) (path : Path) :
    (∀ p, r.getParameter m path = .ok p ↔ ResolvesP r m path p) ∧
    (r.getParameter m path = .error ↔ ¬ ∃ p, ResolvesP r m path p) ∧
    (∀ c, r.getSubmodel m path = .ok c ↔ ResolvesM r m path c) ∧
    (r.getSubmodel m path = .error ↔ ¬ ∃ c, ResolvesM r m path c) := by
  -- both lookups are `Reg.lookup` of their container, by `rfl`
  simp only [resolvesP_iff, resolvesM_iff]
  exact ⟨fun _ => Reg.lookup_ok_iff, Reg.lookup_error_iff, fun _ => Reg.lookup_ok_iff, Reg.lookup_error_iff⟩

/-- the empty path is rejected with an Error -/
theorem Reg.lookup_empty_path (r : Reg) (m : MId) :
    r.getParameter m [] = .error ∧ r.getSubmodel m [] = .error :=
  ⟨rfl, rfl⟩

/-- `get_parameter` resolves exactly the paths that `get_all_parameters` lists. -/
theorem Reg.lookup_matches_enumeration {r : Reg} (hi : r.inv) {m : MId} {l : PMap} (h : r.allParameters m = .ok l)
    (path : Path) (p : PId) : r.getParameter m path = .ok p ↔ (path, p) ∈ l := by
  rw [Reg.getParameter_ok_iff, (Reg.allParameters_spec hi h).2]

example : diamond.getParameter 0 [nB, nS, nW] = .ok 0 ∧ diamond.getSubmodel 0 [nA, nS] = .ok 3 := by decide +kernel
example : diamond.getParameter 0 [nB, nS] = .error ∧ diamond.getParameter 0 [nB, nS, nW, nW] = .error ∧
    diamond.getSubmodel 0 [nW] = .error ∧ diamond.getParameter 0 [[]] = .ok 1 := by decide +kernel

/-- `Optimizer::add(model)`, when it returns normally, has registered exactly
the parameters reachable through the hierarchy in addition to those registered
before, each once (also when one is reachable along several paths or was
registered already). -/
theorem Reg.optimizer_adds_once {r : Reg} (hi : r.inv) {m : MId} {o o' : Opt} (hn : o.params.Nodup)
    (h : o.addModel r m = .ok o') :
    o'.params.Nodup ∧ ∀ q, q ∈ o'.params ↔ q ∈ o.params ∨ ∃ path, ResolvesP r m path q := by
  unfold Opt.addModel at h
  split at h
  · rename_i ps hps
    obtain ⟨_, h1, h3⟩ := Opt.addList_ok h
    exact ⟨h1 hn, fun q => by rw [h3 q, Reg.mem_values_iff hi hps]⟩
  · cases h
  · cases h

/-- `Optimizer::add(parameter)`: registered once, a repeated add is a no-op,
and a rejected add (a parameter the optimizer cannot configure) leaves the
registered set unchanged. -/
theorem Reg.optimizer_add_param {valid : PId → Bool} {o o' : Opt} (p : PId) (hn : o.params.Nodup) :
    (o.addParam valid p = .ok o' → o'.params.Nodup ∧ ∀ q, q ∈ o'.params ↔ q ∈ o.params ∨ q = p) ∧
    (o.addParam valid p = .error o' → o'.params = o.params ∧ o'.needsStats = o.needsStats) ∧
    (p ∈ o.params → o.addParam valid p = .ok o) ∧
    o.addParam valid p ≠ .crash := by
  have hd := Opt.addParam_decides valid o p
  refine ⟨fun h => ?_, fun h => ?_, fun h => if_pos h, hd.ne_crash⟩
  · obtain ⟨_, a, b⟩ := Opt.addParam_ok h
    exact ⟨a hn, b⟩
  · obtain ⟨rfl, _⟩ := hd.of_error h
    exact ⟨rfl, rfl⟩

/-- A fresh optimizer meets `Opt.wf`, and every `add` — of a parameter or of a
model, accepted or rejected, in any order and with any overlap between the
models and parameters added — keeps it: no parameter is registered twice and
`configure_parameter` has run exactly once for every registered parameter,
also when the same Parameter object is reachable along several paths (a diamond
through a shared submodel, or one Parameter added to two sibling models). -/
theorem Reg.optimizer_configures_once (r : Reg) (needsStats : Bool) {o o' : Opt} :
    ({ needsStats := needsStats } : Opt).wf r.valid ∧
    (o.wf r.valid → ∀ p, (o.addParam r.valid p = .ok o' ∨ o.addParam r.valid p = .error o') → o'.wf r.valid) ∧
    (o.wf r.valid → ∀ m, (o.addModel r m = .ok o' ∨ o.addModel r m = .error o') → o'.wf r.valid) := by
  refine ⟨⟨by simp, by simp, by simp⟩, fun hw p h => Opt.addParam_wf hw h, fun hw m h => ?_⟩
  unfold Opt.addModel at h
  split at h
  · exact Opt.addList_wf hw h
  · simp only [reduceCtorEq, Out.error.injEq, false_or] at h; subst h; exact hw
  · simp at h

/-- `Optimizer::add(model)` never crashes on a registry built through the API,
returns normally when the optimizer keeps no statistics or every reachable
parameter is valid, and otherwise fails only because of an invalid parameter
below the model. -/
theorem Reg.optimizer_add_model_outcome {r : Reg} (hi : r.inv) {m : MId} (hm : m < r.size) (o : Opt) :
    o.addModel r m ≠ .crash ∧
    ((o.needsStats = false ∨ ∀ path p, ResolvesP r m path p → r.valid p = true) → ∃ o', o.addModel r m = .ok o') ∧
    (∀ o', o.addModel r m = .error o' → o.needsStats = true ∧ ∃ path p, ResolvesP r m path p ∧ r.valid p = false) := by
  obtain ⟨l, hl, _⟩ := Reg.getAll_spec hi (Nat.zero_lt_of_lt hm) m
  have hmem {q} := Reg.mem_values_iff hi hl (q := q)
  have hl' : r.trainableParameters m = .ok l := hl
  simp only [Opt.addModel, hl']
  refine ⟨Opt.addList_ne_crash _ _ _, fun hv => Opt.addList_all_valid (hv.imp_right fun hv p hp => ?_), fun o' h => ?_⟩
  · obtain ⟨path, hp⟩ := hmem.1 hp
    exact hv path p hp
  · obtain ⟨a, p, hp, hv⟩ := Opt.addList_error h
    obtain ⟨path, hp⟩ := hmem.1 hp
    exact ⟨a, path, p, hp, hv⟩

-- the diamond's parameter 0 is reachable along two paths and is registered once;
-- parameter 1 was registered before and is not registered again
example : (Opt.addModel diamond { needsStats := true, params := [1], configs := [1] } 0) =
    .ok { needsStats := true, params := [1, 0], configs := [1, 0] } := by
  decide +kernel
-- an invalid parameter (2) under an optimizer that keeps statistics: rejected, set unchanged
example : (Opt.addParam diamond.valid { needsStats := true, params := [1], configs := [1] } 2) =
    .error { needsStats := true, params := [1], configs := [1, 2] } := by
  decide +kernel
-- parameter 0 sits below both siblings 1 and 2: adding both models, then the root, then the parameter configures it once
example : (match Opt.addModel diamond { needsStats := true } 1 with
    | .ok o1 => match Opt.addModel diamond o1 2 with
      | .ok o2 => match Opt.addModel diamond o2 0 with
        | .ok o3 => match Opt.addParam diamond.valid o3 0 with
          | .ok o4 => decide (o4.configCount 0 = 1 ∧ o4.configCount 1 = 1 ∧ o4.params = [0, 1])
          | _ => false
        | _ => false
      | _ => false
    | _ => false) = true := by decide +kernel

end Primitiv.Registry
