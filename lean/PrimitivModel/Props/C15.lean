import PrimitivModel.Lemmas.Resume
/-
C15 — checkpoint and resume is equivalent to uninterrupted training.

`checkpoint` saves exactly the `get_configs` maps and, per parameter, value
and all named statistics (what `Optimizer::save` and `Model::save(path, true)`
write); `restore` builds fresh objects (constructor defaults, `set_configs`,
parameters from the file with zero gradient, `add`).  That the *bytes* written
and read back carry these data unchanged is property C13 and is assumed here.
Statements are over an ordered field; bit-identity of the float32 runs is
observed by the correspondence run (props/C15.py).

The argument: a training step does not read the gradients (1), and on the
states training runs from (`Good`, an invariant that holds initially)
restore ∘ checkpoint loses nothing but the gradients (2); so the interrupted
run and the uninterrupted one stay equal up to gradients (3), for any number of
interruptions (3′).  The lemmas are in Lemmas/Resume.lean; the theorems here
are the form the property is read in, several of them one-line instances.
-/
namespace Primitiv.C15
open Primitiv.Opt Primitiv.Gen.Opt

/-- decided over the generated table: every hyper-parameter that
`update_parameter` reads — in fact every data member — is written by
`get_configs` and read back by `set_configs` under the same key, with keys
that are pairwise distinct and distinct from the base-class keys; the same for
the base-class settings (epoch, lr_scale, l2_strength, clip_threshold).  An
omitted key breaks this. -/
theorem Resume.fields_read_saved :
    (∀ k ∈ Kind.all,
      (∀ f ∈ (table k).fieldsRead, f ∈ (table k).getKeys.map (·.2)) ∧
      (∀ f ∈ (table k).fields, f ∈ (table k).getKeys.map (·.2)) ∧
      (table k).getKeys = (table k).setKeys ∧
      ((table k).getKeys.map (·.1) ++ baseGetKeys.map (·.1)).Nodup) ∧
    (∀ f ∈ baseFieldNames, f ∈ baseGetKeys.map (·.2)) ∧ baseGetKeys = baseSetKeys := by
  decide

/-- decided over the generated table: every statistic `update_parameter`
uses is created by `configure_parameter` (hence present, hence saved by
`save(path, with_stats = true)`), and `configure_parameter` keeps a statistic
that already exists (the `has_stats` guard), so loaded statistics survive the
registration of the restored parameter.  An omitted statistic or a dropped
guard breaks this. -/
theorem Resume.stats_used_saved :
    ∀ k ∈ Kind.all, (∀ n ∈ statsUsed k, n ∈ statNames k) ∧ (∀ n ∈ (table k).statsWritten, n ∈ statNames k) ∧
      statGuarded k = true := by
  decide

section
variable {K : Type} [Field K] [LinearOrder K] [IsStrictOrderedRing K]

/-- `load(save(o))` into a freshly constructed optimizer of the same algorithm
reproduces every setting and hyper-parameter -/
theorem Resume.configs_roundtrip (F : Fns K) (o : Opt K) (hf : o.fields.length = arity o.kind) :
    loadConfigs o.base.getU (allF o) (fresh F o.kind) = { o with reg := [] } :=
  Primitiv.Opt.configs_roundtrip F o hf

example : ([1, 2, 3, 4] : List ℚ).length = arity .Adam := by decide

/-- (1) frame lemma: a training step depends only on the optimizer object
(algorithm, hyper-parameters, epoch, settings, registration), and on validity,
values and named statistics of the parameters — not on the gradients left over
from before, nor on anything else -/
theorem Resume.step_reads_only (F : Fns K) (G : Nat → List (List K) → List (List K)) (t : Nat) (s s' : State K)
    (h : obs s = obs s') : trainStep F G t s = trainStep F G t s' := trainStep_frame F G t s s' h

example : ∃ s s' : State ℚ, s ≠ s' ∧ obs s = obs s' :=
  ⟨{ o := { kind := .SGD, fields := [1], base := Base.init, reg := [0] }, ps := [⟨true, [1], [5], []⟩] },
   { o := { kind := .SGD, fields := [1], base := Base.init, reg := [0] }, ps := [⟨true, [1], [0], []⟩] },
   by simp, rfl⟩

/-- (2) on every `Good` state, restoring a checkpoint into fresh objects gives
back the state up to the gradients -/
theorem Resume.restore_checkpoint (F : Fns K) (k : Kind) (s : State K) (h : Good k s) :
    obs (restore F k (checkpoint s)) = obs s := Primitiv.Opt.restore_checkpoint F k s h

/-- the hypothesis `Good` holds for the initial state of any training program
(any algorithm, hyper-parameters, settings, parameter values) … -/
theorem Resume.init_good (k : Kind) (fields : List K) (b : Base K) (vals : List (List K))
    (hf : fields.length = arity k) : Good k (initState k fields b vals) := Primitiv.Opt.init_good k fields b vals hf

/-- … and is kept by training -/
theorem Resume.train_good (F : Fns K) (G : Nat → List (List K) → List (List K)) (k : Kind) (n t : Nat) (s : State K)
    (h : Good k s) : Good k (train F G t n s) := Good_train F G k n t s h

/-- (3) **Checkpoint and resume is equivalent to uninterrupted training.**
For every algorithm `k`, hyper-parameters, settings (`b`: epoch, learning-rate
scaling, weight decay, clipping), initial parameter values, deterministic
gradient source `G`, interruption point `m` and continuation length `n`:
training `m + n` steps gives the same optimizer state, parameter values and
statistics as training `m` steps, checkpointing, restoring into fresh objects
and training `n` more steps. -/
theorem Resume.equiv (F : Fns K) (G : Nat → List (List K) → List (List K)) (k : Kind) (fields : List K)
    (b : Base K) (vals : List (List K)) (hf : fields.length = arity k) (m n : Nat) :
    let s₀ := initState k fields b vals
    obs (train F G 0 (m + n) s₀) =
      obs (train F G m n (restore F k (checkpoint (train F G 0 m s₀)))) := by
  intro s₀
  have h := train_restore F G k s₀ (Primitiv.Opt.init_good k fields b vals hf) 0 m n
  rwa [Nat.zero_add] at h

/-- the same from any `Good` state, reached by training or not, e.g. after
settings were changed or the epoch was set by hand before the checkpoint -/
theorem Resume.equiv_from (F : Fns K) (G : Nat → List (List K) → List (List K)) (k : Kind) (s : State K)
    (h : Good k s) (t m n : Nat) :
    obs (train F G t (m + n) s) = obs (train F G (t + m) n (restore F k (checkpoint (train F G t m s)))) :=
  train_restore F G k s h t m n

example : Good .MomentumSGD (initState .MomentumSGD [(1 : ℚ) / 4, 1 / 2] Base.init [[1, 2], [3]]) :=
  Primitiv.Opt.init_good _ _ _ _ (by decide)

/-- (3′) **any number of interruptions.**  Training in segments of lengths
`ns` — the process is stopped after every segment, the state goes through a
checkpoint file and fresh objects — ends in the same optimizer state,
parameter values and statistics as one uninterrupted run of `ns.sum` steps,
from every `Good` state, for every list of segment lengths (empty
segments included: a checkpoint that is restored and saved again at once). -/
theorem Resume.equiv_chain (F : Fns K) (G : Nat → List (List K) → List (List K)) (k : Kind) (s : State K)
    (h : Good k s) (t : Nat) (ns : List Nat) :
    obs (trainResumed F G k t ns s) = obs (train F G t ns.sum s) :=
  (trainResumed_obs F G k ns t s h).1

/-- the same from the start of a training program -/
theorem Resume.equiv_chain_init (F : Fns K) (G : Nat → List (List K) → List (List K)) (k : Kind) (fields : List K)
    (b : Base K) (vals : List (List K)) (hf : fields.length = arity k) (ns : List Nat) :
    obs (trainResumed F G k 0 ns (initState k fields b vals)) = obs (train F G 0 ns.sum (initState k fields b vals)) :=
  (trainResumed_obs F G k ns 0 _ (Primitiv.Opt.init_good k fields b vals hf)).1

-- segment lengths with an empty segment: `equiv_chain` at `[2, 0, 3]` compares with 5 uninterrupted steps
example : ([2, 0, 3] : List Nat).sum = 5 := by decide

/-- a restored state is again one from which training (and checkpointing) runs -/
theorem Resume.restore_good (F : Fns K) (k : Kind) (s : State K) (h : Good k s) :
    Good k (restore F k (checkpoint s)) :=
  Good_of_obs k _ _ (Primitiv.Opt.restore_checkpoint F k s h).symm h

/-- saving what was just restored writes the same checkpoint again: nothing
is lost or invented by a save / load / save cycle -/
theorem Resume.checkpoint_idempotent (F : Fns K) (k : Kind) (s : State K) (h : Good k s) :
    checkpoint (restore F k (checkpoint s)) = checkpoint s :=
  checkpoint_of_obs _ _ (Primitiv.Opt.restore_checkpoint F k s h)

end
end Primitiv.C15
