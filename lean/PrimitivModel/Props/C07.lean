import PrimitivModel.Lemmas.CowRefine
import PrimitivModel.Lemmas.CowInvalid
import PrimitivModel.Lemmas.CowSpec
/-
C07 — tensors have value semantics.

Model: Model/Cow.lean (copy-on-write heap with use counts, exactly the sharing
discipline of tensor.{h,cc}); specification: Spec/Cow.lean (a pool of plain
values, no heap).  `absState` forgets the heap.  The statements are about the
states after any history of the protocol (a list of `Op`) from the empty state
(`Reachable`); such a state satisfies the invariant `Inv` (use count = number of
owners, no dangling handle, buffer length = shape size), which is all that
`refines_from` asks of its start state.  `invalid_rejects_everything` holds in
any state.
-/
namespace Primitiv.Cow

/-- pointwise agreement of two answer streams, `live` excepted (the abstract
state has no buffers to count) -/
def outsAgree : List Op → List Out → List Out → Prop
  | [], [], [] => True
  | op :: ops, o :: os, o' :: os' => (op ≠ .live → o = o') ∧ outsAgree ops os os'
  | _, _, _ => False

/-- Refinement, from any state satisfying the invariant: the model run is a
run of the pure-value specification. -/
theorem refines_from {s : State} (hs : Inv s) (ops : List Op) :
    Inv (run s ops).1 ∧ absState (run s ops).1 = (Spec.run (absState s) ops).1 ∧
    outsAgree ops (run s ops).2 (Spec.run (absState s) ops).2 := by
  induction ops generalizing s with
  | nil => exact ⟨hs, rfl, trivial⟩
  | cons op ops ih =>
    obtain ⟨h1, h2, h3, _⟩ := step_refines hs op
    obtain ⟨i1, i2, i3⟩ := ih h1
    simp only [run, Spec.run]
    rw [← h2]
    exact ⟨i1, i2, h3, i3⟩

/-- For every history from the empty state, the copy-on-write implementation is
observationally the pure-value pool: same abstract state, same answers (but to
`live`, see `outsAgree`). -/
theorem refines (ops : List Op) :
    Inv (run init ops).1 ∧ absState (run init ops).1 = (Spec.run Spec.init ops).1 ∧
    outsAgree ops (run init ops).2 (Spec.run Spec.init ops).2 :=
  refines_from inv_init ops

example : (run init [.new 0 [2, 3] 1 [1, 2, 3, 4, 5, 6], .copy 0 3, .reshape 0 6 [3, 2] 1, .iadd 0 6, .read 3]).2
    = [.ok, .ok, .ok, .err, .vals ⟨[2, 3], 1, 6⟩ [1, 2, 3, 4, 5, 6]] := by decide +kernel

def Reachable (s : State) : Prop := ∃ ops, s = (run init ops).1

theorem reachable_inv {s : State} (h : Reachable s) : Inv s := by
  obtain ⟨ops, rfl⟩ := h; exact (refines ops).1

/-- Isolation: in every reachable state, an operation leaves the value of
every object that is not one of its targets unchanged — whatever buffers are
shared underneath (copies, reshape/flatten views, parameter values, `x += x`). -/
theorem isolation {s : State} (h : Reachable s) (op : Op) (j : Nat) (hj : j ∉ Spec.targets op) :
    getSlot (absState (step s op).1).pool j = getSlot (absState s).pool j := by
  rw [(step_refines (reachable_inv h) op).2.1]
  exact (Spec.step_ok _ op).iso j hj

example : (6 : Nat) ∉ Spec.targets (.iadd 0 3) := by decide +kernel

/-- the Device entry points called directly on tensors that share one buffer:
`add_bw` with `ga`, `gb` two copies of ONE zero tensor, `slice_bw` into a view's
sharer, `inplace_add` on a copy of a parameter's gradient — each write stays in
its target -/
example : (run init [.new 0 [2] 2 [0, 0, 0, 0], .copy 0 3, .copy 0 6, .new 9 [2] 2 [1, 2, 3, 4],
    .daddBw 9 3 6, .dsubBw 9 3 6, .new 12 [1] 2 [5, 6], .dsliceBw 12 0 1 3, .flatten 3 15, .dimul 15 2, .readall]).2.getLast?
    = some (.all [(0, some (⟨[2], 2, 2⟩, [0, 0, 0, 0])), (3, some (⟨[2], 2, 2⟩, [2, 9, 6, 14])),
        (6, some (⟨[2], 2, 2⟩, [0, 0, 0, 0])), (9, some (⟨[2], 2, 2⟩, [1, 2, 3, 4])),
        (12, some (⟨[], 2, 1⟩, [5, 6])), (15, some (⟨[2], 2, 2⟩, [4, 18, 12, 28]))]) := by decide +kernel

/-- `isolation` says what an operation leaves alone; its target gets the value the
specification prescribes.  One instance spelled out: `h += g` on valid operands of
admissible shapes. -/
theorem iadd_effect {s : State} (hr : Reachable s) {h g : Nat} {sy sx : Shape} {Y X : List Int}
    (hh : getSlot (absState s).pool h = some (some (sy, Y))) (hg : getSlot (absState s).pool g = some (some (sx, X)))
    (hc : (!sx.hasSameDims sy || !sx.hasCompatibleBatch sy) = false) :
    getSlot (absState (step s (.iadd h g)).1).pool h = some (some (sy, arith (· + ·) sy sx Y (some X))) := by
  rw [(step_refines (reachable_inv hr) _).2.1]
  show getSlot (Spec.inplace2 (· + ·) (absState s) h g).1.pool h = _
  simp [Spec.inplace2, hh, hg, hc, Spec.setT, getSlot_setSlot]

/-- `g = std::move(h)`, `h ≠ g`: the source object is left invalid, the target
holds the value the source had. -/
theorem move_invalidates_source {s : State} (hr : Reachable s) {h g : Nat} (hne : h ≠ g) {v : Handle}
    (hv : getSlot s.pool h = some v) :
    (step s (.move h g)).2 = .ok ∧
    getSlot (step s (.move h g)).1.pool h = some .invalid ∧
    getSlot (absState (step s (.move h g)).1).pool h = some none ∧
    getSlot (absState (step s (.move h g)).1).pool g = some (absHandle s.heap v) := by
  have hv' : getSlot (absState s).pool h = some (absHandle s.heap v) := by rw [abs_get, hv]; rfl
  have hm : step s (.move h g) = (replace (replace s g (some v)) h (some .invalid), .ok) :=
    (guard_some hv).trans (if_neg hne)
  have ha : (Spec.step (absState s) (.move h g)).1
      = Spec.setT (Spec.setT (absState s) g (some (absHandle s.heap v))) h (some none) := by
    show (match getSlot (absState s).pool h with | none => _ | some v => _ : AState × Out).1 = _
    rw [hv']
    exact congrArg Prod.fst (if_neg hne)
  rw [← (step_refines (reachable_inv hr) _).2.1] at ha
  rw [ha, hm]
  -- the handle of `h` is read off the pool of the model, the two values off the specification
  refine ⟨rfl, ?_, ?_, ?_⟩
  · simp [replace, getSlot_setSlot]
  · simp [Spec.setT, getSlot_setSlot]
  · simp [Spec.setT, getSlot_setSlot, Ne.symm hne]

example : getSlot (step (step init (.new 0 [2] 1 [1, 2])).1 (.move 0 3)).1.pool 0 = some .invalid := by decide +kernel

/-- accessor or arithmetic use of the object in slot `h` -/
def usesObject (h : Nat) : Op → Bool
  | .read x | .shape x | .device x | .reset x _ | .resetv x _ | .imul x _ | .flatten x _ | .reshape x _ _ _ => x == h
  | .iadd x y | .isub x y | .diadd x y | .disub x y => x == h || y == h
  | .piaddValue _ y | .piaddGrad _ y => y == h
  | .dimul x _ | .fcopy x _ | .fpositive x _ | .fconcat1 x _ _ | .fbconcat1 x _ | .probe _ x => x == h
  | .dsliceBw gy _ _ gx | .dpickBw gy _ _ gx | .dflipBw gy _ gx | .dtransposeBw gy gx => gy == h || gx == h
  | .daddBw gy ga gb | .dsubBw gy ga gb => gy == h || ga == h || gb == h
  | _ => false

/-- the protocol passes the call to the library: the other objects it names exist
(otherwise the harness answers `noobj`) and, for the backward kernels, the
operands are different objects (otherwise `alias`) -/
def issued (s : State) : Op → Bool
  | .iadd x y | .isub x y | .diadd x y | .disub x y => (getSlot s.pool x).isSome && (getSlot s.pool y).isSome
  | .piaddValue p _ => (getSlot s.pool (vslot p)).isSome
  | .piaddGrad p _ => (getSlot s.pool (gslot p)).isSome
  | .dsliceBw gy _ _ gx | .dpickBw gy _ _ gx | .dflipBw gy _ gx | .dtransposeBw gy gx =>
    (getSlot s.pool gy).isSome && (getSlot s.pool gx).isSome && gy != gx
  | .daddBw gy ga gb | .dsubBw gy ga gb =>
    (getSlot s.pool gy).isSome && (getSlot s.pool ga).isSome && (getSlot s.pool gb).isSome &&
      gy != ga && gy != gb && ga != gb
  | _ => true

/-- Every accessor (`to_vector`, `shape`, `device`)
and every arithmetic or view use (`reset*`, `*=`, `+=`, `-=` on either side,
`reshape`, `flatten`, `param.value() +=`), every direct call of a Device entry point
(`inplace_add/subtract/multiply_const`, `slice_bw`, `pick_bw`, `flip_bw`,
`transpose_bw`, `add_bw`, `subtract_bw`, in any operand position) and every
function of one operand (`copy`, `positive`, `concat({&h})`, `batch::concat({&h})`,
`sum`, `h + h`, `matmul`, `batch::sum`, `to_float`, `argmax`) of an invalid tensor
is `err` — never `crash`, never `ok` — and changes nothing.  No invariant is needed. -/
theorem invalid_rejects_everything {s : State} {h : Nat} (hinv : getSlot s.pool h = some .invalid)
    (op : Op) (hu : usesObject h op = true) (hex : issued s op = true) :
    step s op = (s, .err) := by
  cases op with
  | read x | shape x | device x | reset x k | resetv x vals | imul x k | dimul x k | fpositive x g | probe fn x
  | flatten x g | fcopy x g | fconcat1 x g dim | fbconcat1 x g =>
    obtain rfl : x = h := eq_of_beq hu
    exact guard_invalid hinv
  | reshape x g dims batch =>
    obtain rfl : x = h := eq_of_beq hu
    refine (guard_some hinv).trans ?_
    unfold withShape
    cases hn : Shape.new dims batch with
    | error e =>
      cases e with
      | error => rfl
      | crash => exact absurd hn (new_keeps dims batch).1
    | ok nsh => exact guard_invalid hinv
  | iadd x y | isub x y | diadd x y | disub x y =>
    simp [usesObject] at hu
    simp [issued] at hex
    exact inplace2_invalid _ hex.1 hex.2 (by rcases hu with hu | hu <;> subst hu <;> simp [hinv])
  | piaddValue p y | piaddGrad p y =>
    obtain rfl : y = h := eq_of_beq hu
    simp [issued] at hex
    refine (guard_some hinv).trans ?_
    split
    · exact inplace2_invalid _ hex (by simp [hinv]) (.inr hinv)
    · rfl
  | dsliceBw gy dim off gx | dpickBw gy dim ids gx | dflipBw gy dim gx | dtransposeBw gy gx =>
    simp [usesObject] at hu
    simp [issued] at hex
    exact bwOp_invalid _ _ hex.2 hex.1.1 hex.1.2 (by rcases hu with hu | hu <;> subst hu <;> simp [hinv])
  | daddBw gy ga gb | dsubBw gy ga gb =>
    simp [usesObject] at hu
    simp [issued] at hex
    obtain ⟨⟨⟨⟨⟨e1, e2⟩, e3⟩, n1⟩, n2⟩, n3⟩ := hex
    exact abBwOp_invalid _ (by simp [n1, n2, n3]) e1 e2 e3 (by rcases hu with (hu | hu) | hu <;> subst hu <;> simp [hinv])
  | _ => exact absurd hu Bool.false_ne_true

example : getSlot (run init [.new 0 [2] 1 [1, 2], .move 0 3]).1.pool 0 = some .invalid := by decide +kernel

example : (run init [.new 0 [2] 1 [1, 2], .move 0 3, .fconcat1 0 6 0, .fbconcat1 0 6, .fpositive 0 6, .fcopy 0 6,
    .probe .sum0 0, .probe .matmul 0, .dsliceBw 3 0 0 0, .daddBw 3 0 6, .readall]).2
    = [.ok, .ok, .err, .err, .err, .err, .err, .err, .err, .noobj,
       .all [(0, none), (3, some (⟨[2], 1, 2⟩, [1, 2]))]] := by decide +kernel

/-- In no reachable state does any operation make the model touch freed memory,
run past a buffer, or otherwise leave defined behaviour.  The model answers what
the specification answers, and the specification never answers `crash` on a pool
without an axis of extent 0, which is what it has after every history. -/
theorem no_crash {s : State} (hr : Reachable s) (op : Op) : (step s op).2 ≠ .crash := by
  by_cases hop : op = .live
  · subst hop; exact nofun
  · rw [(step_refines (reachable_inv hr) op).2.2.1 hop]
    refine (Spec.step_ok _ op).safe ?_
    obtain ⟨ops, rfl⟩ := hr
    rw [(refines ops).2.1]
    exact Spec.run_poolNZ poolNZ_init ops

theorem reachable_step {s : State} (hr : Reachable s) (op : Op) : Reachable (step s op).1 := by
  obtain ⟨ops, rfl⟩ := hr
  exact ⟨ops ++ [op], (run_snoc init ops op).symm⟩

/-- a buffer is live exactly as long as some Tensor object holds it: it is freed
exactly when its use count reaches 0 -/
theorem freed_iff_unreferenced {s : State} (hr : Reachable s) (b : Nat) :
    getSlot s.heap b = none ↔ refs s.pool b = 0 := by
  have hs := reachable_inv hr
  have hrc := hs.rc b
  constructor
  · intro h; rw [← hrc]; simp [rcOf, h]
  · intro h
    cases hb : getSlot s.heap b with
    | none => rfl
    | some bf =>
      have := hs.pos b bf hb
      simp [rcOf, hb] at hrc
      omega

theorem use_count_exact {s : State} (hr : Reachable s) (b : Nat) : rcOf s.heap b = refs s.pool b :=
  (reachable_inv hr).rc b

/-- When no valid Tensor object is left (all dropped, invalidated or
moved from), no device buffer is left either. -/
theorem no_leak {s : State} (hr : Reachable s) (hall : ∀ i sh b, getSlot s.pool i ≠ some (.valid sh b)) :
    liveCount s = 0 := by
  apply filter_isSome_of_all_none
  intro b
  rw [freed_iff_unreferenced hr]
  apply refs_zero_of_none
  intro i hb
  obtain ⟨sh, hv⟩ := bufOf_eq_some hb
  exact hall i sh b hv

example : liveCount (run init [.new 0 [2] 1 [1, 2], .copy 0 3, .param 0 [2] 1 [5, 6], .ptensor 0 6,
    .drop 0, .invalidate 3, .pdrop 0, .move 6 9, .drop 9]).1 = 0 := by decide +kernel

/-- A freed buffer stays freed across every operation — its id is not reused, the
operation does not touch it, and no object refers to it — and so, the state after
the operation being reachable again (`reachable_step`), for ever. -/
theorem no_double_free {s : State} (hr : Reachable s) (op : Op) (b : Nat)
    (hb : b < s.heap.length) (hf : getSlot s.heap b = none) :
    b < (step s op).1.heap.length ∧ getSlot (step s op).1.heap b = none ∧ refs (step s op).1.pool b = 0 := by
  have he := (step_refines (reachable_inv hr) op).2.2.2
  have h2 := he.2 b hb hf
  exact ⟨Nat.lt_of_lt_of_le hb he.1, h2, (freed_iff_unreferenced (reachable_step hr op) b).1 h2⟩

example : getSlot (run init [.new 0 [2] 1 [1, 2], .drop 0, .new 0 [2] 1 [3, 4]]).1.heap 0 = none := by decide +kernel

end Primitiv.Cow
