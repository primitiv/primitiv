import PrimitivModel.Model.OpTable
import PrimitivModel.Gen.OpTable
import PrimitivModel.Driver.FuncsDrv
/-
C04 — the lazy Node API and the eager Tensor API agree; static shapes are sound.

The statements are over the WHOLE generated table (`Gen/OpTable.lean`, rewritten
from the working tree on every run), for both settings of PRIMITIV_USE_CACHE,
and are decided by kernel evaluation of the checking functions of
`Model/OpTable.lean`.
-/
namespace Primitiv.C04
open Primitiv.OpTable Primitiv.Gen.OpTable

set_option maxRecDepth 100000

/-- Every check of this file on both tables, as one kernel evaluation.  The kernel caches
reductions inside one term and never across declarations: `sameKernel` and `shapeRuleConsistent`
both begin by running every public Node function symbolically (`Fn.outcomes t true`), and the two
tables, which differ in one operator, compare the same names with each other. -/
theorem OpTable.checks :
    (table.noUnsupported = true ∧ table.arityConsistent = true ∧ table.allOpsReachable = true ∧
      table.sameKernel = true ∧ table.sameKernelComposites = true ∧ table.shapeRuleConsistent = true) ∧
    (tableCache.noUnsupported = true ∧ tableCache.arityConsistent = true ∧
      tableCache.allOpsReachable = true ∧ tableCache.sameKernel = true ∧
      tableCache.sameKernelComposites = true ∧ tableCache.shapeRuleConsistent = true) := by
  decide +kernel

/-- The translator understood every operator class, rule body, public Node /
Tensor function, operator template, wrapper, composite and device front-end. -/
theorem OpTable.no_unsupported :
    table.noUnsupported = true ∧ tableCache.noUnsupported = true :=
  ⟨OpTable.checks.1.1, OpTable.checks.2.1⟩

/-- For every public Node function the number of nodes it passes to
`add_operator` equals the operator's declared `argn` (or satisfies
NONZERO / ANY, an empty vector being rejected first); every `x[i]`, `y[i]`,
`gx[i]`, `gy[i]` used by FWD_SHAPE, FORWARD and BACKWARD is below the declared
counts; FWD_SHAPE and FORWARD assign exactly `retn` values. -/
theorem OpTable.arity_consistent :
    table.arityConsistent = true ∧ tableCache.arityConsistent = true :=
  ⟨OpTable.checks.1.2.1, OpTable.checks.2.2.1⟩

/-- every operator class is registered by some public Node function -/
theorem OpTable.all_ops_reachable :
    table.allOpsReachable = true ∧ tableCache.allOpsReachable = true :=
  ⟨OpTable.checks.1.2.2.1, OpTable.checks.2.2.2.1⟩

/-- For every public Node function `f` and every outcome of the scalar
dispatch, FORWARD of the operator(s) it registers — through
`functions::g<Tensor>`, the operator templates or a device method — runs the
same kernels with the same arguments in the same order, and returns the same
value, as the Tensor function `f`. -/
theorem Api.same_kernel : table.sameKernel = true := OpTable.checks.1.2.2.2.1

theorem Api.same_kernel_cache : tableCache.sameKernel = true := OpTable.checks.2.2.2.2.1

/-- The composite helpers that are defined once as templates over the variable type
(contrib/functions.h: selu, mean, batch::mean, batch::normalize, zeros, ones, dropout) run,
instantiated on Nodes, the same kernels on the same arguments as instantiated on Tensors. -/
theorem Api.same_kernel_composites :
    table.sameKernelComposites = true ∧ tableCache.sameKernelComposites = true :=
  ⟨OpTable.checks.1.2.2.2.2.1, OpTable.checks.2.2.2.2.2.1⟩

example : table.genericComposites.length = 11 := by decide +kernel

/-- For every operator registered by a public Node function whose FORWARD is a
single kernel call, FWD_SHAPE computes the static shape with the same shape
rule applied to the same arguments as the device front-end of that kernel uses
for the shape of its output (operators without a kernel return the shape of
their argument; the four composite operators are covered by the
correspondence run, see `shape_sound_full`). -/
theorem Api.shape_rule_consistent : table.shapeRuleConsistent = true := OpTable.checks.1.2.2.2.2.2

theorem Api.shape_rule_consistent_cache : tableCache.shapeRuleConsistent = true :=
  OpTable.checks.2.2.2.2.2.2

/-- a concrete instance: `add(a, b)` with a scalar `a` registers AddScalar(b, a), whose FORWARD
`*x[0] + *x[1]` is `add_scalar_fw(b, a)` — what `add<Tensor>(a, b)` calls -/
example : (table.nodeFns.filter (fun f => f.name == "add")).length = 3 := by decide +kernel

/-! ### Full statements (stated, not proved)

Over the table-driven model of both APIs that the driver runs
(`Driver/FuncsDrv.lean`: `runApi st node …` interprets the public function on
the Node level — `Graph::add_operator`, FWD_SHAPE, and FORWARD on (shape,
device) pairs — or on the Tensor level — device front-ends —).  What is missing
for a proof: a semantic comparison of FWD_SHAPE with the composition of the
front-end shape rules for the composite operators (Split, BatchSplit,
SoftmaxCrossEntropy, SparseSoftmaxCrossEntropy) and for the composite
functions, for all shapes; the theorems above compare the rules syntactically
for the single-kernel operators, the correspondence run compares both levels
on the generated programs. -/

open Primitiv.Drv.FuncsDrv in
/-- In a single-graph program whose variables all have values, a call is accepted by the Node
API iff it is accepted by the Tensor API or its error is one that is due at evaluation (then
forcing the node throws), and the static Node shapes are the shapes of the Tensor results. -/
def Api.shape_sound_full : Prop :=
  ∀ (st : State) (kind name : String) (ks : List K) (toks : List String),
    st.singleGraph → st.allEager →
    match runApi st true kind name ks toks, runApi st false kind name ks toks with
    | some (rn, _), some (rt, _) =>
      ((resShapes rn).isSome = true ↔ ((resShapes rt).isSome = true ∨ resLazy rn = true)) ∧
      ((resShapes rt).isSome = true → resLazy rn = false ∧
        (resShapes rn).map (·.map Shape.toStr) = (resShapes rt).map (·.map Shape.toStr))
    | _, _ => True

end Primitiv.C04
