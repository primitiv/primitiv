import PrimitivModel.Lemmas.MsgpackSpec
import PrimitivModel.Lemmas.Files
/-
C13 — save/load round trip is lossless, files obey the documented format, the
Reader returns what the Writer was given.

Models: Model/Msgpack.lean (Writer `<<` / Reader `>>`), Model/Files.lean
(Parameter / Model / Optimizer save and load).  Proofs: Lemmas/Msgpack.lean,
Lemmas/MsgpackSpec.lean, Lemmas/Files.lean.  Every definition of the models mentioned here
is the one the drivers `drv_msgpack` / `drv_files` execute.

The hypotheses of the statements are defined with the proofs.  Lemmas/Msgpack.lean: `ArrOk P l`,
`MapOk Pk Pv l` — fewer than 2^32 elements, each satisfying `P` (for a map: keys also distinct).
Lemmas/Files.lean: `ShapeOk`, `TensorOk`, `StatOk`, `PathOk`, `ParamOk`, `ModelOk` — what `save` can
write and `load` then accepts (lengths and payloads below 2^32, a shape the constructor returns
unchanged, `shape.size()` data words; a parameter has batch 1 and distinct statistics names; a model
has distinct parameter names); `loaded p stats dev` is what `load` makes of a saved `p` (zero gradient,
the given device, the statistics iff `stats`); `applyEntries` loads records one after the other into a
model state; `hasKey` is the name lookup of `Model::load`.
-/
namespace Primitiv.C13
open Primitiv Primitiv.Msgpack Primitiv.Files

/-- nil, bool, the eight integer types (as two's complement words), float and double (as bit
patterns: every NaN payload, both zeros, denormals, infinities), for all values -/
theorem decode_encode_scalars :
    (∀ v rest, nil.dec (nil.enc v ++ rest) = .ok v rest) ∧ (∀ v rest, bool.dec (bool.enc v ++ rest) = .ok v rest) ∧
    (∀ v rest, u8.dec (u8.enc v ++ rest) = .ok v rest) ∧ (∀ v rest, u16.dec (u16.enc v ++ rest) = .ok v rest) ∧
    (∀ v rest, u32.dec (u32.enc v ++ rest) = .ok v rest) ∧ (∀ v rest, u64.dec (u64.enc v ++ rest) = .ok v rest) ∧
    (∀ v rest, i8.dec (i8.enc v ++ rest) = .ok v rest) ∧ (∀ v rest, i16.dec (i16.enc v ++ rest) = .ok v rest) ∧
    (∀ v rest, i32.dec (i32.enc v ++ rest) = .ok v rest) ∧ (∀ v rest, i64.dec (i64.enc v ++ rest) = .ok v rest) ∧
    (∀ v rest, f32.dec (f32.enc v ++ rest) = .ok v rest) ∧ (∀ v rest, f64.dec (f64.enc v ++ rest) = .ok v rest) :=
  ⟨fun v r => lawful_nil.roundtrip v r trivial, fun v r => lawful_bool.roundtrip v r trivial,
   fun v r => (lawful_scalar8 _).roundtrip v r trivial, fun v r => (lawful_scalar16 _).roundtrip v r trivial,
   fun v r => (lawful_scalar32 _).roundtrip v r trivial, fun v r => (lawful_scalar64 _).roundtrip v r trivial,
   fun v r => (lawful_scalar8 _).roundtrip v r trivial, fun v r => (lawful_scalar16 _).roundtrip v r trivial,
   fun v r => (lawful_scalar32 _).roundtrip v r trivial, fun v r => (lawful_scalar64 _).roundtrip v r trivial,
   fun v r => (lawful_scalar32 _).roundtrip v r trivial, fun v r => (lawful_scalar64 _).roundtrip v r trivial⟩

/-- the signed C++ value and the word the model carries determine each other -/
theorem signed_word_roundtrip :
    (∀ i : Int, -128 ≤ i ∧ i < 128 → toSigned 8 (ofSigned 8 i) = i) ∧
    (∀ i : Int, -32768 ≤ i ∧ i < 32768 → toSigned 16 (ofSigned 16 i) = i) ∧
    (∀ i : Int, -2147483648 ≤ i ∧ i < 2147483648 → toSigned 32 (ofSigned 32 i) = i) ∧
    (∀ i : Int, -9223372036854775808 ≤ i ∧ i < 9223372036854775808 → toSigned 64 (ofSigned 64 i) = i) :=
  ⟨toSigned_ofSigned 7, toSigned_ofSigned 15, toSigned_ofSigned 31, toSigned_ofSigned 63⟩

/-- str, bin, ext with any payload bytes of any length below 2^32 (all four / three / eight prefix classes) -/
theorem decode_encode_str (s rest : Bytes) (h : s.length < 4294967296) : str.dec (str.enc s ++ rest) = .ok s rest :=
  lawful_str.roundtrip s rest h
theorem decode_encode_bin (s rest : Bytes) (h : s.length < 4294967296) : bin.dec (bin.enc s ++ rest) = .ok s rest :=
  lawful_bin.roundtrip s rest h
theorem decode_encode_ext (ty : UInt8) (s rest : Bytes) (h : s.length < 4294967296) :
    ext.dec (ext.enc (ty, s) ++ rest) = .ok (ty, s) rest :=
  lawful_ext.roundtrip (ty, s) rest h

example : (List.replicate 65536 7 : Bytes).length < 4294967296 := by rw [List.length_replicate]; omega

/-- `std::vector<T>` for any element type whose codec round-trips, any length below 2^32 -/
theorem decode_encode_arr {α : Type} (c : Codec α) (P : α → Prop) (hc : Lawful c P) (l : List α) (rest : Bytes)
    (hl : l.length < 4294967296) (hP : ∀ x ∈ l, P x) : (arr c).dec ((arr c).enc l ++ rest) = .ok l rest :=
  (lawful_arr hc).roundtrip l rest ⟨hl, hP⟩

/-- `std::unordered_map<K, V>` in any iteration order (the entry list), keys distinct -/
theorem decode_encode_map {κ ν : Type} [DecidableEq κ] (k : Codec κ) (v : Codec ν) (Pk : κ → Prop) (Pv : ν → Prop)
    (hk : Lawful k Pk) (hv : Lawful v Pv) (l : List (κ × ν)) (rest : Bytes) (hl : l.length < 4294967296)
    (hP : ∀ x ∈ l, Pk x.1 ∧ Pv x.2) (hnd : (l.map Prod.fst).Nodup) :
    (map k v).dec ((map k v).enc l ++ rest) = .ok l rest :=
  (lawful_map hk hv).roundtrip l rest ⟨hl, hP, hnd⟩

/-- the instances used by the file format and nested containers, as corollaries -/
theorem decode_encode_instances :
    (∀ (l : List UInt32) rest, l.length < 4294967296 → (arr u32).dec ((arr u32).enc l ++ rest) = .ok l rest) ∧
    (∀ (l : List Bytes) rest, ArrOk (fun s : Bytes => s.length < 4294967296) l →
      (arr str).dec ((arr str).enc l ++ rest) = .ok l rest) ∧
    (∀ (l : List (List (List UInt8))) rest, ArrOk (ArrOk (ArrOk fun _ => True)) l →
      (arr (arr (arr u8))).dec ((arr (arr (arr u8))).enc l ++ rest) = .ok l rest) ∧
    (∀ (l : List (Bytes × List UInt32)) rest,
      MapOk (fun s : Bytes => s.length < 4294967296) (ArrOk fun _ => True) l →
      (map str (arr u32)).dec ((map str (arr u32)).enc l ++ rest) = .ok l rest) :=
  ⟨fun l r h => (lawful_arr (lawful_scalar32 _)).roundtrip l r ⟨h, fun _ _ => trivial⟩,
   fun l r h => (lawful_arr lawful_str).roundtrip l r h,
   fun l r h => (lawful_arr (lawful_arr (lawful_arr (lawful_scalar8 _)))).roundtrip l r h,
   fun l r h => (lawful_map lawful_str (lawful_arr (lawful_scalar32 _))).roundtrip l r h⟩

example : ArrOk (ArrOk (ArrOk fun _ : UInt8 => True)) [[[1, 2], []], []] := by
  simp [ArrOk]

/-- for every payload size below 2^32 the Writer's prefix is one the specification admits for that
size, and no admissible prefix is shorter (fixstr/str8/str16/str32, bin8/16/32, fixarray/array16/32,
fixmap/map16/32, fixext1..16/ext8/16/32) -/
theorem encode_valid_shortest (n ty : Nat) (h : n < 4294967296) :
    Spec.Shortest (strHeader n) (Spec.strHeaders n) ∧ Spec.Shortest (binHeader n) (Spec.binHeaders n) ∧
    Spec.Shortest (arrHeader n) (Spec.arrHeaders n) ∧ Spec.Shortest (mapHeader n) (Spec.mapHeaders n) ∧
    Spec.Shortest (extHeader n ty) (Spec.extHeaders n ty) :=
  ⟨strHeader_shortest n h, binHeader_shortest n h, arrHeader_shortest n h, mapHeader_shortest n h,
   extHeader_shortest n ty h⟩

/-- scalars use the fixed-width format of their C++ type: tag byte of the specification, big-endian word -/
theorem scalar_formats :
    nil.enc () = [0xc0] ∧ bool.enc false = [0xc2] ∧ bool.enc true = [0xc3] ∧
    (∀ x, u8.enc x = [0xcc, x.toNat]) ∧ (∀ x, u16.enc x = 0xcd :: be16 x.toNat) ∧
    (∀ x, u32.enc x = 0xce :: be32 x.toNat) ∧ (∀ x, u64.enc x = 0xcf :: be64 x.toNat) ∧
    (∀ x, i8.enc x = [0xd0, x.toNat]) ∧ (∀ x, i16.enc x = 0xd1 :: be16 x.toNat) ∧
    (∀ x, i32.enc x = 0xd2 :: be32 x.toNat) ∧ (∀ x, i64.enc x = 0xd3 :: be64 x.toNat) ∧
    (∀ x, f32.enc x = 0xca :: be32 x.toNat) ∧ (∀ x, f64.enc x = 0xcb :: be64 x.toNat) :=
  ⟨rfl, rfl, rfl, fun _ => rfl, fun _ => rfl, fun _ => rfl, fun _ => rfl, fun _ => rfl, fun _ => rfl,
   fun _ => rfl, fun _ => rfl, fun _ => rfl, fun _ => rfl⟩

/-- observed quirk of the code, not part of the property: 2^32 or more elements → no prefix at all -/
theorem container_overlong_has_no_prefix (n : Nat) (h : 4294967296 ≤ n) : arrHeader n = [] ∧ mapHeader n = [] := by
  have h1 : ¬ n < 16 := by omega
  have h2 : ¬ n < 65536 := by omega
  have h3 : ¬ n < 4294967296 := by omega
  simp only [arrHeader, mapHeader, if_neg h1, if_neg h2, if_neg h3, and_self]

example : ParamOk exampleParam := exampleParamOk
example : (Param.save (some exampleParam) true).isSome = true := by decide
example : ModelOk [([[97], [98]], some exampleParam), ([[97], []], some exampleParam)] :=
  ⟨by simp, by decide, fun k p h => by
    simp only [List.mem_cons, Prod.mk.injEq, Option.some.injEq, List.mem_nil_iff, or_false] at h
    rcases h with ⟨rfl, rfl⟩ | ⟨rfl, rfl⟩ <;> exact ⟨⟨by simp, by simp⟩, exampleParamOk⟩⟩

/-- Saving a parameter and loading the file (whatever follows it) into any Parameter object, on
any device, in all four `with_stats` combinations: value bit-for-bit, shape, zero gradient,
statistics with their names iff saved and asked for. -/
theorem param_roundtrip (old : PState) (p : Param) (wsSave wsLoad : Bool) (dev : Dev) (file trailing : Bytes)
    (hp : ParamOk p) (hs : Param.save (some p) wsSave = some file) :
    Param.load old (file ++ trailing) wsLoad dev =
      (none, some ⟨p.value.shape, dev, p.value, Tensor.zeros p.value.shape,
                   if wsSave && wsLoad then p.stats else []⟩) := by
  rw [Param.load, (Param.reads_parse p wsSave wsLoad dev file hp hs).whole trailing]; rfl

/-- Saving a model (any tree: the map full name ↦ parameter) and loading the file into a model
that has parameters of the same names: every parameter is found under its full hierarchical name
and becomes the saved one; the result does not depend on the order of the description. -/
theorem model_roundtrip (m target : MState) (wsSave wsLoad : Bool) (dev : Dev) (file trailing : Bytes)
    (hm : ModelOk m) (hs : Model.save m wsSave = some file)
    (ht : ∀ k ∈ m.map Prod.fst, hasKey target k = true) :
    ∃ post, Model.load target (file ++ trailing) wsLoad dev = (none, post) ∧
      post.map Prod.fst = target.map Prod.fst ∧
      (∀ k p, (k, some p) ∈ m → (k, some (loaded p (wsSave && wsLoad) dev)) ∈ post) ∧
      (∀ x ∈ target, x.1 ∉ m.map Prod.fst → x ∈ post) := by
  obtain ⟨es, hes, hfile⟩ := Model.save_eq hs
  obtain ⟨hlen, hnd, hok, hmem, hkeys⟩ := Model.saved_entries hm hes
  have hk : ∀ e ∈ es, hasKey target e.1 = true := fun e he =>
    ht e.1 ((hkeys e.1).mp (List.mem_map_of_mem he))
  refine ⟨applyEntries (wsSave && wsLoad) dev es target, ?_, applyEntries_keys _ _ _ _, ?_, ?_⟩
  · rw [Model.load, hfile, List.append_assoc _ _ trailing, (Model.reads_parseCount es.length hlen).whole]
    exact loadEntries_roundtrip wsSave wsLoad dev es trailing target hok hk
  · intro k p hkp
    exact applyEntries_mem _ dev es target hnd hk (k, p) ((hmem (k, p)).mpr hkp)
  · intro x hx hne
    exact applyEntries_other _ dev es target x hx (fun h => hne ((hkeys x.1).mp h))

/-- every setting of every algorithm survives save + load into an optimizer of the same algorithm -/
theorem optimizer_roundtrip (old o : Opt) (trailing : Bytes) (hk : old.kind = o.kind)
    (ho : o.hyper.length = o.kind.keys.length) (hold : old.hyper.length = old.kind.keys.length) :
    Opt.load old (o.save ++ trailing) = (none, o) := by
  rw [Opt.load, Opt.save_eq, (Opt.reads_parse _ _ (uintConfigs_ok o) (floatConfigs_ok o ho)).whole trailing]
  exact congrArg (Prod.mk none) (setConfigs_getConfigs old o hk ho hold)

-- a shape the constructor returns is canonical, which bounds its dimensions and batch: `hd`, `hb` are not needed
/-- every Shape the constructors accept (32-bit arguments) is in the form the file round trip preserves -/
theorem shapes_are_roundtrippable (dims : List Nat) (batch : Nat) (s : Shape) (hd : ∀ d ∈ dims, d < 4294967296)
    (hb : batch < 4294967296) (h : Shape.new dims batch = .ok s) (rest : Bytes) :
    readShape (writeShape s ++ rest) = .ok s rest :=
  lawful_shapeC.roundtrip s rest (shapeOk_of_canonical ((new_agree dims batch).canonical h))

/-- the float words are stored little-endian, in memory order -/
theorem tensor_payload_little_endian (w : UInt32) (ws : List UInt32) :
    wordsToBytes (w :: ws) =
      [w.toNat % 256, w.toNat / 256 % 256, w.toNat / 65536 % 256, w.toNat / 16777216 % 256] ++ wordsToBytes ws ∧
    bytesToWords (wordsToBytes (w :: ws)) = w :: ws :=
  ⟨rfl, bytesToWords_wordsToBytes _⟩

/-- docs/source/reference/file_format.rst: version 0.1, data types 0x0/0x100/0x200/0x300/0x400,
header = three uint32, Shape = array<uint32> dims + uint32 batch, Tensor = Shape + bin,
Parameter = Tensor + uint32 N + N × (str + Tensor), Model = uint32 N + N × (array<str> + Parameter),
Optimizer = map<str, uint32> + map<str, float> -/
theorem layout_is_documented :
    versionMajor = 0 ∧ versionMinor = 1 ∧
    DataType.shape.tag = 0x0 ∧ DataType.tensor.tag = 0x100 ∧ DataType.parameter.tag = 0x200 ∧
    DataType.model.tag = 0x300 ∧ DataType.optimizer.tag = 0x400 ∧
    (∀ dt, writeHeader dt = nat32.enc 0 ++ nat32.enc 1 ++ nat32.enc dt.tag) ∧
    (∀ s, writeShape s = (arr nat32).enc s.dims ++ nat32.enc s.batch) ∧
    (∀ t, writeTensor t = writeShape t.shape ++ bin.enc (wordsToBytes t.data)) ∧
    (∀ p, saveInner p true = writeTensor p.value ++ nat32.enc p.stats.length ++
            p.stats.flatMap (fun kv => str.enc kv.1 ++ writeTensor kv.2)) ∧
    (∀ p, saveInner p false = writeTensor p.value ++ nat32.enc 0) ∧
    (∀ es ws, modelBody es ws = nat32.enc es.length ++ es.flatMap (fun e => (arr str).enc e.1 ++ saveInner e.2 ws)) ∧
    (∀ o : Opt, o.save = writeHeader .optimizer ++ (map str u32).enc o.uintConfigs ++ (map str f32).enc o.floatConfigs) :=
  ⟨rfl, rfl, rfl, rfl, rfl, rfl, rfl, fun _ => rfl, fun _ => rfl, fun _ => rfl,
    fun _ => (List.append_assoc ..).symm, fun _ => rfl, fun _ _ => rfl, fun _ => rfl⟩

end Primitiv.C13
