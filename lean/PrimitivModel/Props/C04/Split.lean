import PrimitivModel.Lemmas.SplitShape
/-
C04, proved fragment of `Api.shape_sound_full` for the composite operators
Split and BatchSplit (their FORWARD runs a loop of kernels, so the syntactic
comparison of `Api.shape_rule_consistent` does not apply): for ALL canonical
shapes, axes and partition counts the static shape of FWD_SHAPE is the shape
every slice front-end of the Tensor path computes; for Split, FWD_SHAPE also
accepts exactly the arguments that pass the Tensor path's checks (BatchSplit has
no such theorem).  Over `Model/Shape.lean` (32-bit arithmetic included), whose
rules the driver runs and the correspondence validates.
-/
namespace Primitiv.C04
open Primitiv Primitiv.ShapeL

/-- C04, the composite operator Split: whenever FWD_SHAPE(Split) accepts `(x, dim, n)` with the
static shape `s`, the Tensor path of `split` (tensor_funcs.cc: the same two guards, then
`x.shape().resize_dim(dim, span)`, then `slice(x, dim, i * span, (i + 1) * span)` for every `i < n`)
passes its shape validation and every slice front-end computes exactly the shape `s`. -/
theorem Api.split_shape_sound_partial {x : Shape} (hx : x.Canonical) (dim n : Nat) {s : Shape}
    (h : ShapeOps.split x dim n = .ok s) :
    x.resizeDim dim (x.get dim / n) = .ok s ∧
    ∀ i, i < n → ShapeOps.slice x dim (mul32 i (x.get dim / n)) (mul32 (i + 1) (x.get dim / n)) = .ok s := by
  obtain ⟨_, hm, h⟩ := split_ok_iff.1 h
  refine ⟨h, fun i hi => ?_⟩
  obtain ⟨e1, e2, hs, hle, hlt⟩ := span_exact (hx.get_lt dim) (hx.get_pos dim) hm hi
  unfold ShapeOps.slice
  rw [e1, e2, if_neg (by omega)]
  split
  · -- beyond the depth the axis has size 1: one partition of span 1, the shape is unchanged
    rename_i hd
    have hg : x.get dim = 1 := Shape.get_of_short hd
    rw [show x.get dim / n = 1 by omega] at h
    have hd8 : dim < 8 := by
      apply Nat.lt_of_not_le; intro h8
      unfold Shape.updateDim at h; rw [if_pos h8] at h; cases h
    rwa [updateDim_one_beyond hx hd hd8] at h
  · rwa [sub32_eq (by omega) hlt, Nat.add_sub_cancel_left]

/-- … and FWD_SHAPE(Split) accepts exactly when the three checks of the Tensor path pass (`n ≠ 0`,
`span * n = total` in 32 bits, `resize_dim` accepts); read contrapositively, it rejects exactly when
one of them fails. -/
theorem Api.split_rejects_iff (x : Shape) (dim n : Nat) :
    (∃ s, ShapeOps.split x dim n = .ok s) ↔
      (n ≠ 0 ∧ mul32 (x.get dim / n) n = x.get dim ∧ ∃ s, x.resizeDim dim (x.get dim / n) = .ok s) := by
  simp only [split_ok_iff, exists_and_left]; rfl

/-- The same for BatchSplit: the Tensor path's `batch::slice(x, i * span, (i + 1) * span)` has the
static shape of FWD_SHAPE(BatchSplit). -/
theorem Api.batch_split_shape_sound_partial {x : Shape} (hx : x.Canonical) (n : Nat) {s : Shape}
    (h : ShapeOps.batchSplit x n = .ok s) :
    ∀ i, i < n → ShapeOps.batchSlice x (mul32 i (x.batch / n)) (mul32 (i + 1) (x.batch / n)) = .ok s := by
  obtain ⟨_, hm, h⟩ := batchSplit_ok_iff.1 h
  intro i hi
  obtain ⟨e1, e2, hs, hle, hlt⟩ := span_exact hx.batch_lt (Nat.pos_of_ne_zero hx.batch_ne) hm hi
  unfold ShapeOps.batchSlice
  rwa [e1, e2, if_neg (by omega), sub32_eq (by omega) hlt, Nat.add_sub_cancel_left]

-- the hypothesis `h` of the first theorem at a canonical shape, `dim = 1`, `n = 2`
example : ShapeOps.split ⟨[2, 4], 3, 8⟩ 1 2 = .ok ⟨[2, 2], 3, 4⟩ := rfl

end Primitiv.C04
