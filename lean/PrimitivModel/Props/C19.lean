import PrimitivModel.Lemmas.Spinlock
import PrimitivModel.Lemmas.SpinMixins
import PrimitivModel.Gen.SpinlockDecls
/-
C19 — spinlocks give mutual exclusion and re-entrancy under every interleaving.

All statements are over the per-access state machines of Model/Spinlock.lean:
any number of threads (`Nat → Thread`), any programs, any schedule, unbounded
length (`Reach` = reachable by sequentially consistent steps; for the
recursive lock: in which the 32-bit nesting counter never wraps).
`hold` of a thread = acquisitions that have returned successfully minus the
unlock() calls that gave one back; unlock() by a thread that holds nothing
leaves it at 0 (`RSpin.unlock_nonowner_noop`; the Spinlock model skips such
calls).  An `example` after a theorem exhibits a reachable state that meets
its hypotheses.
-/
namespace Primitiv.C19
open Primitiv.Lock

/-- At most one thread is between a successful lock()/try_lock() and its unlock(). -/
theorem Spin.mutex {progs : Nat → List Op} {s : Spin.Sys} (h : Spin.Reach progs s) (t u : Nat)
    (ht : (s.thr t).hold = true) (hu : (s.thr u).hold = true) : t = u :=
  (Spin.good_of_reach h).uniq t u ht hu

-- thread 1 holds the lock while thread 0 spins in lock()
example : ∃ s, Spin.Reach (fun _ => [.lock, .unlock]) s ∧ (s.thr 1).hold = true ∧ (s.thr 0).pc = .tas true :=
  ⟨_, .step 0 (.step 1 .init), by decide, by decide⟩

/-- A thread waiting in lock() (or calling try_lock()) acquires the lock by its
next step whenever the flag is clear: the acquiring step is never disabled. -/
theorem Spin.enabled_when_free (s : Spin.Sys) (t : Nat) (b : Bool)
    (hpc : (s.thr t).pc = .tas b) (hfree : s.flag = false) :
    ((Spin.step s t).1.thr t).hold = true ∧ (Spin.step s t).1.flag = true ∧
      (Spin.step s t).2.ret = (if b then "void" else "true") := by
  simp [Spin.step, Spin.trans, hpc, hfree]

/-- The same for the recursive lock: with the flag clear the test_and_set of a
waiting thread wins the flag. -/
theorem RSpin.enabled_when_free (s : RSpin.Sys) (t : Nat) (b : Bool)
    (hpc : (s.thr t).pc = .tTas b) (hfree : s.sh.flag = false) :
    ((RSpin.step s t).1.thr t).pc = .tWr b ∧ (RSpin.step s t).1.sh.flag = true := by
  simp [RSpin.step, RSpin.trans, hpc, hfree]

/-- The translated memory orders: every acquisition is an acquire (or stronger)
read-modify-write of `ready_`, every release a release (or stronger) store to
it, in both classes; these are the synchronisation edges between successive
owners. -/
theorem Spin.sync_orders :
    (∀ d ∈ [Gen.SpinlockDecls.spin, Gen.SpinlockDecls.rspin],
      d.atomic .ready = true ∧
      (∀ a ∈ d.tryLock, a.field = .ready → a.kind = .rmw ∧ a.order.isAcquire = true) ∧
      (∀ a ∈ d.unlock, a.field = .ready → a.kind = .write ∧ a.order.isRelease = true)) := by
  decide

/-- The accesses the model performs, in order, are the accesses the translator
finds in the bodies of try_lock() / unlock() of the two classes. -/
theorem Spin.model_follows_source :
    Gen.SpinlockDecls.spin.tryLock.map (·.access) = Spin.tryLockSeq ∧
    Gen.SpinlockDecls.spin.unlock.map (·.access) = Spin.unlockSeq ∧
    Gen.SpinlockDecls.rspin.tryLock.map (·.access) = RSpin.tryLockSeq ∧
    Gen.SpinlockDecls.rspin.unlock.map (·.access) = RSpin.unlockSeq := by
  decide

/-- At most one thread is between a successful acquisition and the matching release. -/
theorem RSpin.mutex {progs : Nat → List Op} {s : RSpin.Sys} (h : RSpin.Reach progs s) (t u : Nat)
    (ht : 0 < (s.thr t).hold) (hu : 0 < (s.thr u).hold) : t = u :=
  (RSpin.good_of_reach h).uniq t u (Or.inl ht) (Or.inl hu)

-- thread 0 holds the lock twice while thread 1 has lost the test_and_set
example : ∃ s, RSpin.Reach (fun _ => [.lock, .lock, .unlock, .unlock]) s ∧ (s.thr 0).hold = 2 ∧ (s.thr 1).pc = .tRd true :=
  ⟨_, RSpin.reach_run (sched := [0, 0, 0, 1, 0, 0, 0]) (by decide), by decide, by decide⟩

/-- Re-entrancy: a thread that holds the lock and calls lock()/try_lock() again
succeeds by its own three steps, whatever the others do in between: the
test_and_set finds the flag set, the owner check finds the thread itself, the
count goes up by one and the call returns success. -/
theorem RSpin.reentrant {progs : Nat → List Op} {s : RSpin.Sys} (h : RSpin.Reach progs s) (t : Nat) (b : Bool)
    (hh : 0 < (s.thr t).hold) :
    ((s.thr t).pc = .tTas b → ((RSpin.step s t).1.thr t).pc = .tRd b ∧ (RSpin.step s t).1.sh = s.sh) ∧
    ((s.thr t).pc = .tRd b → ((RSpin.step s t).1.thr t).pc = .tInc b ∧ (RSpin.step s t).1.sh = s.sh) ∧
    ((s.thr t).pc = .tInc b → RSpin.NoWrap s t →
        ((RSpin.step s t).1.thr t).hold = (s.thr t).hold + 1 ∧
        (RSpin.step s t).1.sh.count = (s.thr t).hold + 1 ∧
        (RSpin.step s t).1.sh.owner = some t ∧
        (RSpin.step s t).2.ret = (if b then "void" else "true")) := by
  have g := RSpin.good_of_reach h
  refine ⟨?_, ?_, ?_⟩
  · intro hpc
    have := RSpin.hold_owner (g.ok t) hh (by rw [hpc]; simp)
    simp [RSpin.step, RSpin.trans, hpc, this.2]
  · intro hpc
    have := RSpin.hold_owner (g.ok t) hh (by rw [hpc]; simp)
    simp [RSpin.step, RSpin.trans, hpc, this.1]
  · intro hpc hnw
    have hok := g.ok t
    have hlt := hnw b hpc
    simp only [RSpin.Ok, hpc] at hok
    simp only [RSpin.step, RSpin.trans, hpc, upd_same, RSpin.finish_hold, inc32_of_lt _ hlt]
    simp [hok.2.1, hok.2.2]

/-- The lock is released exactly when the unlock count matches: the decrement in
unlock() goes on to reset the owner and clear the flag iff this is the
outermost unlock (`hold = 1`); otherwise the call returns with the thread still
the owner and the flag still set.  The clear leaves the lock at rest, and a
step clears the flag only in this way. -/
theorem RSpin.release_at_zero {progs : Nat → List Op} {s : RSpin.Sys} (h : RSpin.Reach progs s) (t : Nat) :
    ((s.thr t).pc = .uDec →
        ((s.thr t).hold = 1 → ((RSpin.step s t).1.thr t).pc = .uWr) ∧
        ((s.thr t).hold ≠ 1 →
          ((RSpin.step s t).1.thr t).hold = (s.thr t).hold - 1 ∧ 0 < ((RSpin.step s t).1.thr t).hold ∧
          (RSpin.step s t).1.sh.flag = true ∧ (RSpin.step s t).1.sh.owner = some t ∧
          (RSpin.step s t).2.ret = "void")) ∧
    ((s.thr t).pc = .uClr →
        (RSpin.step s t).1.sh = ⟨false, none, 0⟩ ∧ ((RSpin.step s t).1.thr t).hold = 0) ∧
    (s.sh.flag = true → (RSpin.step s t).1.sh.flag = false → (s.thr t).pc = .uClr ∧ (s.thr t).hold = 1) := by
  have g := RSpin.good_of_reach h
  have hok := g.ok t
  refine ⟨?_, ?_, ?_⟩
  · intro hpc
    simp only [RSpin.Ok, hpc] at hok
    obtain ⟨hpos, hf, ho, hc⟩ := hok
    have hd : dec32 s.sh.count = s.sh.count - 1 := dec32_of_pos _ (by omega)
    constructor
    · intro h1
      have : s.sh.count - 1 = 0 := by omega
      simp [RSpin.step, RSpin.trans, hpc, hd, this]
    · intro h1
      have : s.sh.count - 1 ≠ 0 := by omega
      simp only [RSpin.step, RSpin.trans, hpc, hd, this, if_false, upd_same, RSpin.finish_hold]
      refine ⟨by trivial, by omega, hf, ho, by trivial⟩
  · intro hpc
    simp only [RSpin.Ok, hpc] at hok
    obtain ⟨h1, hf, ho, hc⟩ := hok
    simp only [RSpin.step, RSpin.trans, hpc, upd_same, RSpin.finish_hold]
    refine ⟨?_, by omega⟩
    cases hs : s.sh; simp_all
  · intro hf hf'
    rcases RSpin.trans_flag hf' with h0 | hpc
    · rw [hf] at h0; cases h0
    · simp only [RSpin.Ok, hpc] at hok
      exact ⟨hpc, hok.1⟩

/-- unlock() by a thread that does not hold the lock has no effect. -/
theorem RSpin.unlock_nonowner_noop {progs : Nat → List Op} {s : RSpin.Sys} (h : RSpin.Reach progs s) (t : Nat)
    (hh : (s.thr t).hold = 0) (hpc : (s.thr t).pc = .uRd) :
    (RSpin.step s t).1.sh = s.sh ∧ ((RSpin.step s t).1.thr t).hold = 0 ∧
      (RSpin.step s t).1.thr t = RSpin.finish 0 (s.thr t).rest ∧ (RSpin.step s t).2.ret = "void" := by
  have g := RSpin.good_of_reach h
  have hok := g.ok t
  simp only [RSpin.Ok, hpc, RSpin.Idle] at hok
  have hno : s.sh.owner ≠ some t := hok.2 hh
  simp [RSpin.step, RSpin.trans, hpc, hno, hh]

-- the hypotheses of `unlock_nonowner_noop`, with the lock held by somebody else
example : ∃ s, RSpin.Reach (fun t => if t = 0 then [.lock] else [.unlock]) s ∧ (s.thr 1).hold = 0 ∧ (s.thr 1).pc = .uRd ∧
    s.sh = ⟨true, some 0, 1⟩ :=
  ⟨_, RSpin.reach_run (sched := [0, 0, 0]) (by decide), by decide, by decide, by decide⟩

/-- try_lock() fails without side effects while another thread owns the lock:
both of its steps (the test_and_set that finds the flag set, the owner check
that finds somebody else) leave the shared state as it is, and the call
returns false with the caller's own state unchanged. -/
theorem RSpin.try_lock_fail_pure {progs : Nat → List Op} {s : RSpin.Sys} (h : RSpin.Reach progs s) (t u : Nat)
    (htu : u ≠ t) (hu : 0 < (s.thr u).hold) :
    (∀ b, (s.thr t).pc = .tTas b → (RSpin.step s t).1.sh = s.sh ∧ ((RSpin.step s t).1.thr t).pc = .tRd b) ∧
    ((s.thr t).pc = .tRd false →
        (RSpin.step s t).1.sh = s.sh ∧ (RSpin.step s t).2.ret = "false" ∧
        (RSpin.step s t).1.thr t = RSpin.finish (s.thr t).hold (s.thr t).rest ∧ (s.thr t).hold = 0) := by
  have g := RSpin.good_of_reach h
  have hflag : s.sh.flag = true := RSpin.inside_flag (g.ok u) (Or.inl hu)
  have hout : ¬ RSpin.inside (s.thr t) := fun hin => htu (g.uniq u t (Or.inl hu) hin)
  have hno : s.sh.owner ≠ some t := fun ho => hout (RSpin.owner_inside (g.ok t) ho)
  refine ⟨?_, ?_⟩
  · intro b hpc
    simp [RSpin.step, RSpin.trans, hpc, hflag]
  · intro hpc
    have hh : (s.thr t).hold = 0 := by
      have : ¬ 0 < (s.thr t).hold := fun h0 => hout (Or.inl h0)
      omega
    simp [RSpin.step, RSpin.trans, hpc, hno, hh]

-- the hypotheses of `try_lock_fail_pure` at its second step
example : ∃ s, RSpin.Reach (fun t => if t = 0 then [.lock] else [.tryLock]) s ∧ 0 < (s.thr 0).hold ∧ (s.thr 1).pc = .tRd false :=
  ⟨_, RSpin.reach_run (sched := [0, 0, 0, 1]) (by decide), by decide, by decide⟩

/-- The side condition of `RSpin.Reach` (the 32-bit nesting counter never wraps)
is no restriction for threads whose programs are shorter than 2^32 calls: in
every reachable state their next step does not wrap. -/
theorem RSpin.nowrap_of_short_programs {progs : Nat → List Op} {s : RSpin.Sys} (h : RSpin.Reach progs s) (t : Nat)
    (hlen : (progs t).length < W) : RSpin.NoWrap s t :=
  RSpin.nowrap_of_short h t hlen

/-- The counter of the model wraps at 2^32; the declaration table (regenerated
from the source on every run) shows that `lock_count_` is an unsigned integer
at least that wide, so the model's counter is faithful to the code for every
nesting depth below 2^32, and for threads that make fewer than 2^32 calls
neither counter wraps: the count stays below the declared range. -/
theorem RSpin.nowrap {progs : Nat → List Op} {s : RSpin.Sys} (h : RSpin.Reach progs s) (t : Nat)
    (hlen : (progs t).length < W) :
    W ≤ 2 ^ bitsOf Gen.SpinlockDecls.members .recursiveSpinlock .count ∧
    RSpin.NoWrap s t ∧
    (0 < (s.thr t).hold → s.sh.count < 2 ^ bitsOf Gen.SpinlockDecls.members .recursiveSpinlock .count) := by
  have hw : W ≤ 2 ^ bitsOf Gen.SpinlockDecls.members .recursiveSpinlock .count := by decide
  exact ⟨hw, RSpin.nowrap_of_short h t hlen, fun _ => Nat.lt_of_lt_of_le (RSpin.good_of_reach h).free.2 hw⟩

/-- No data race on the lock's own fields: in no reachable state are two
different threads about to access the same non-atomic field with at least one
of them writing.  Which fields are atomic is read off the source
(`Gen.SpinlockDecls.rspin`, regenerated on every run): the proof needs
`ready_` and `locked_thread_id_` to be declared atomic; `lock_count_` is plain
and is shown to be touched only by the thread that has the flag. -/
theorem RSpin.drf (progs : Nat → List Op) : RSpin.DRF Gen.SpinlockDecls.rspin progs :=
  RSpin.drf_of_atomic _ progs rfl rfl

/-- The same for Spinlock: its only field is the atomic flag. -/
theorem Spin.drf {progs : Nat → List Op} {s : Spin.Sys} (_ : Spin.Reach progs s) (t u : Nat) :
    ¬ Conflict Gen.SpinlockDecls.spin (Spin.nextAccess (s.thr t).pc) (Spin.nextAccess (s.thr u).pc) := by
  have hr : Gen.SpinlockDecls.spin.atomic .ready = true := rfl
  cases (s.thr t).pc <;> cases (s.thr u).pc <;> simp [Conflict, Spin.nextAccess, hr]

/-- Identifiable: while objects are created and destroyed (any history shorter
than 2^64 commands), every live object is found under its id, two live objects
never share an id, no id is ever handed out twice, and the id of a destroyed
object resolves to nothing. -/
theorem Ident.unique_resolvable (h : List Ident.Cmd) (hl : h.length < W64) :
    (∀ a i, (Ident.run h).live a = some i → (Ident.run h).objs i = some a) ∧
    (∀ a b i, (Ident.run h).live a = some i → (Ident.run h).live b = some i → a = b) ∧
    (Ident.run h).issued.Nodup ∧
    (∀ i, (∀ a, (Ident.run h).live a ≠ some i) → (Ident.run h).objs i = none) := by
  have g := Ident.good_run h hl
  refine ⟨fun a i hl => (g.bij i a).2 hl, ?_, g.nodup, ?_⟩
  · intro a b i ha hb
    have h1 := (g.bij i a).2 ha
    have h2 := (g.bij i b).2 hb
    rw [h1] at h2; exact Option.some.inj h2
  · intro i hno
    cases ho : (Ident.run h).objs i with
    | none => rfl
    | some a => exact absurd ((g.bij i a).1 ho) (hno a)

example : (Ident.run [.new 3, .new 5, .del 3, .new 3]).live 3 = some 2 ∧ (Ident.run [.new 3, .new 5, .del 3, .new 3]).objs 0 = none := by
  decide

/-- What the sequential models of the mixins assume about the declarations, read
off the source: the registry of Identifiable (`next_id_`, `objects_`) and its
`mutex_`, and the default slot of DefaultSettable, are `static` and not
`thread_local` (one per process, shared by all threads); the object's own
`id_` is per object; `next_id_` is a 64-bit unsigned integer; and the
constructor, the destructor and get_object() each take the lock_guard on
`mutex_` before they touch the registry, so that concurrent executions of
Identifiable are sequential histories of the modelled commands.  (That nothing
else in the class mentions the registry is not in the statement: the
translator stops with an error if something does.  DefaultSettable has no lock;
that its calls do not overlap is assumed of the caller.) -/
theorem Mixins.process_wide_and_guarded :
    (∀ m ∈ [Member.nextId, Member.objects, Member.mutex],
      storageOf Gen.SpinlockDecls.members .identifiable m = some (true, false)) ∧
    storageOf Gen.SpinlockDecls.members .defaultSettable .defaultObj = some (true, false) ∧
    storageOf Gen.SpinlockDecls.members .identifiable .objId = some (false, false) ∧
    bitsOf Gen.SpinlockDecls.members .identifiable .nextId = 64 ∧
    Gen.SpinlockDecls.identGuarded = [(.ctor, true), (.dtor, true), (.getObject, true)] := by
  decide

/-- DefaultSettable: after any history the default slot is empty or points to a
live object (destroying the current default clears it). -/
theorem Default.never_dangles (h : List Default.Cmd) (a : Nat) (hs : (Default.run h).slot = some a) :
    (Default.run h).live a = true :=
  Default.good_foldl h Default.init (by intro a h; cases h) a hs

example : (Default.run [.new 1, .set 1, .del 1]).slot = none ∧ (Default.run [.new 1, .new 2, .set 1, .del 2]).slot = some 1 := by
  decide

/-- Cross-thread lifetime of the default slot (one slot shared by all threads:
the commands of the history may come from any thread, one after the other;
the class has no lock, so calls that overlap are outside the model): once the
object that is the current default has been destroyed, get_default() throws. -/
theorem Default.destroyed_default_throws (h : List Default.Cmd) (a : Nat) (hs : (Default.run h).slot = some a) :
    (Default.run (h ++ [.del a])).slot = none ∧
    (Default.exec (Default.run (h ++ [.del a])) .get).2 = "err" := by
  have hl := Default.never_dangles h a hs
  have hrun : Default.run (h ++ [.del a]) = (Default.exec (Default.run h) (.del a)).1 := by
    simp [Default.run, List.foldl_append]
  have hslot : (Default.exec (Default.run h) (.del a)).1.slot = none := by
    simp [Default.exec, hl, hs]
  rw [hrun]
  generalize (Default.exec (Default.run h) (.del a)).1 = s' at hslot
  exact ⟨hslot, by simp only [Default.exec, hslot]⟩

example : (Default.run [.new 2, .set 2]).slot = some 2 := by decide

end Primitiv.C19
