import PrimitivModel.Lemmas.Msgpack
import PrimitivModel.Lemmas.Files
/-
C14 — damaged or partial files are rejected cleanly; failed saves are reported.

Models and proofs as for C13.  `Param.load` / `Model.load` / `Opt.load` return
the error (if any) together with the state of the object(s) after the call.
-/
namespace Primitiv.C14
open Primitiv Primitiv.Msgpack Primitiv.Files

def ProperPrefix (p whole : Bytes) : Prop := ∃ q, q ≠ [] ∧ p ++ q = whole

example : ProperPrefix [0xce, 0, 0] (u32.enc 7) := ⟨[0, 7], by simp, rfl⟩

theorem prefix_rejected_scalars :
    (∀ v p, ProperPrefix p (nil.enc v) → nil.dec p = .error .eof) ∧
    (∀ v p, ProperPrefix p (bool.enc v) → bool.dec p = .error .eof) ∧
    (∀ v p, ProperPrefix p (u8.enc v) → u8.dec p = .error .eof) ∧
    (∀ v p, ProperPrefix p (u16.enc v) → u16.dec p = .error .eof) ∧
    (∀ v p, ProperPrefix p (u32.enc v) → u32.dec p = .error .eof) ∧
    (∀ v p, ProperPrefix p (u64.enc v) → u64.dec p = .error .eof) ∧
    (∀ v p, ProperPrefix p (i8.enc v) → i8.dec p = .error .eof) ∧
    (∀ v p, ProperPrefix p (i16.enc v) → i16.dec p = .error .eof) ∧
    (∀ v p, ProperPrefix p (i32.enc v) → i32.dec p = .error .eof) ∧
    (∀ v p, ProperPrefix p (i64.enc v) → i64.dec p = .error .eof) ∧
    (∀ v p, ProperPrefix p (f32.enc v) → f32.dec p = .error .eof) ∧
    (∀ v p, ProperPrefix p (f64.enc v) → f64.dec p = .error .eof) :=
  ⟨fun v p ⟨q, hq, h⟩ => lawful_nil.prefixFree v p q trivial h hq,
   fun v p ⟨q, hq, h⟩ => lawful_bool.prefixFree v p q trivial h hq,
   fun v p ⟨q, hq, h⟩ => (lawful_scalar8 _).prefixFree v p q trivial h hq,
   fun v p ⟨q, hq, h⟩ => (lawful_scalar16 _).prefixFree v p q trivial h hq,
   fun v p ⟨q, hq, h⟩ => (lawful_scalar32 _).prefixFree v p q trivial h hq,
   fun v p ⟨q, hq, h⟩ => (lawful_scalar64 _).prefixFree v p q trivial h hq,
   fun v p ⟨q, hq, h⟩ => (lawful_scalar8 _).prefixFree v p q trivial h hq,
   fun v p ⟨q, hq, h⟩ => (lawful_scalar16 _).prefixFree v p q trivial h hq,
   fun v p ⟨q, hq, h⟩ => (lawful_scalar32 _).prefixFree v p q trivial h hq,
   fun v p ⟨q, hq, h⟩ => (lawful_scalar64 _).prefixFree v p q trivial h hq,
   fun v p ⟨q, hq, h⟩ => (lawful_scalar32 _).prefixFree v p q trivial h hq,
   fun v p ⟨q, hq, h⟩ => (lawful_scalar64 _).prefixFree v p q trivial h hq⟩

theorem prefix_rejected_str (s p : Bytes) (h : s.length < 4294967296) (hp : ProperPrefix p (str.enc s)) :
    str.dec p = .error .eof := by obtain ⟨q, hq, he⟩ := hp; exact lawful_str.prefixFree s p q h he hq
theorem prefix_rejected_bin (s p : Bytes) (h : s.length < 4294967296) (hp : ProperPrefix p (bin.enc s)) :
    bin.dec p = .error .eof := by obtain ⟨q, hq, he⟩ := hp; exact lawful_bin.prefixFree s p q h he hq
theorem prefix_rejected_ext (ty : UInt8) (s p : Bytes) (h : s.length < 4294967296)
    (hp : ProperPrefix p (ext.enc (ty, s))) : ext.dec p = .error .eof := by
  obtain ⟨q, hq, he⟩ := hp; exact lawful_ext.prefixFree (ty, s) p q h he hq

/-- containers, by induction on the structure: for any element codec that round-trips and is prefix-free -/
theorem prefix_rejected_arr {α : Type} (c : Codec α) (P : α → Prop) (hc : Lawful c P) (l : List α) (p : Bytes)
    (hl : l.length < 4294967296) (hP : ∀ x ∈ l, P x) (hp : ProperPrefix p ((arr c).enc l)) :
    (arr c).dec p = .error .eof := by
  obtain ⟨q, hq, he⟩ := hp; exact (lawful_arr hc).prefixFree l p q ⟨hl, hP⟩ he hq

theorem prefix_rejected_map {κ ν : Type} [DecidableEq κ] (k : Codec κ) (v : Codec ν) (Pk : κ → Prop) (Pv : ν → Prop)
    (hk : Lawful k Pk) (hv : Lawful v Pv) (l : List (κ × ν)) (p : Bytes) (hl : l.length < 4294967296)
    (hP : ∀ x ∈ l, Pk x.1 ∧ Pv x.2) (hnd : (l.map Prod.fst).Nodup) (hp : ProperPrefix p ((map k v).enc l)) :
    (map k v).dec p = .error .eof := by
  obtain ⟨q, hq, he⟩ := hp; exact (lawful_map hk hv).prefixFree l p q ⟨hl, hP, hnd⟩ he hq

example : ParamOk exampleParam := exampleParamOk

/-- every proper prefix of a valid Parameter file: EOF, the Parameter is exactly as it was -/
theorem truncation_rejected_param (old : PState) (p : Param) (wsSave wsLoad : Bool) (dev : Dev) (file pre : Bytes)
    (hp : ParamOk p) (hs : Param.save (some p) wsSave = some file) (hpre : ProperPrefix pre file) :
    Param.load old pre wsLoad dev = (some .eof, old) := by
  obtain ⟨q, hq, he⟩ := hpre
  rw [Param.load, (Param.reads_parse p wsSave wsLoad dev file hp hs).cut pre q he hq]; rfl

/-- every proper prefix of a valid Model file: EOF; the parameters whose records lie completely
before the cut (the first `j` in file order) hold exactly those records, all others are untouched -/
theorem truncation_rejected_model (m target : MState) (wsSave wsLoad : Bool) (dev : Dev) (file pre : Bytes)
    (hm : ModelOk m) (hs : Model.save m wsSave = some file)
    (ht : ∀ k ∈ m.map Prod.fst, hasKey target k = true) (hpre : ProperPrefix pre file) :
    ∃ (es : List (Path × Param)) (j : Nat), sortEntries m = es.map (fun e => (e.1, some e.2)) ∧ j ≤ es.length ∧
      Model.load target pre wsLoad dev = (some .eof, applyEntries (wsSave && wsLoad) dev (es.take j) target) := by
  obtain ⟨q, hq, he⟩ := hpre
  obtain ⟨es, hes, hfile⟩ := Model.save_eq hs
  obtain ⟨hlen, _, hok, _, hkeys⟩ := Model.saved_entries hm hes
  have hk : ∀ e ∈ es, hasKey target e.1 = true := fun e he =>
    ht e.1 ((hkeys e.1).mp (List.mem_map_of_mem he))
  refine ⟨es, ?_⟩
  rw [hfile] at he
  rw [Model.load]
  rcases prefix_split he with ⟨a, ha, hpa⟩ | ⟨c, rfl, hc⟩
  · -- the cut is inside the header or the count
    rw [(Model.reads_parseCount es.length hlen).cut pre a hpa ha]
    exact ⟨0, hes, Nat.zero_le _, rfl⟩
  · rw [(Model.reads_parseCount es.length hlen).whole]
    obtain ⟨j, hj, hres⟩ := loadEntries_prefix wsSave wsLoad dev es c q target hok hk hc hq
    exact ⟨j, hes, Nat.le_of_lt hj, hres⟩

/-- every proper prefix of a valid Optimizer file: EOF, no setting changed -/
theorem truncation_rejected_optimizer (old o : Opt) (pre : Bytes) (ho : o.hyper.length = o.kind.keys.length)
    (hpre : ProperPrefix pre o.save) : Opt.load old pre = (some .eof, old) := by
  obtain ⟨q, hq, he⟩ := hpre
  rw [Opt.save_eq] at he
  rw [Opt.load, (Opt.reads_parse _ _ (uintConfigs_ok o) (floatConfigs_ok o ho)).cut pre q he hq]; rfl

/-- any version other than 0.1 and any other data type is rejected by all three loaders, whatever follows,
and nothing changes -/
theorem bad_header_rejected (major minor tag : Nat) (rest : Bytes)
    (hM : major < 4294967296) (hm : minor < 4294967296) (ht : tag < 4294967296) :
    (∀ old ws dev, (major ≠ 0 ∨ minor ≠ 1 ∨ tag ≠ 0x200) →
      Param.load old (nat32.enc major ++ nat32.enc minor ++ nat32.enc tag ++ rest) ws dev = (some .invalid, old)) ∧
    (∀ old ws dev, (major ≠ 0 ∨ minor ≠ 1 ∨ tag ≠ 0x300) →
      Model.load old (nat32.enc major ++ nat32.enc minor ++ nat32.enc tag ++ rest) ws dev = (some .invalid, old)) ∧
    (∀ old, (major ≠ 0 ∨ minor ≠ 1 ∨ tag ≠ 0x400) →
      Opt.load old (nat32.enc major ++ nat32.enc minor ++ nat32.enc tag ++ rest) = (some .invalid, old)) :=
  ⟨fun old ws dev h => by rw [Param.load, Param.parse, readHeader_bad .parameter major minor tag rest hM hm ht h]; rfl,
   fun old ws dev h => by rw [Model.load, Model.parseCount, readHeader_bad .model major minor tag rest hM hm ht h]; rfl,
   fun old h => by rw [Opt.load, Opt.parse, readHeader_bad .optimizer major minor tag rest hM hm ht h]; rfl⟩

/-- a `bin` whose length is not `shape.size() * 4` -/
theorem length_mismatch_rejected (s : Shape) (data rest : Bytes) (hs : ShapeOk s)
    (hd : data.length < 4294967296) (hne : data.length ≠ s.size * 4) :
    readTensor (writeShape s ++ bin.enc data ++ rest) = .error .invalid :=
  ((reads_readTensor s data hs hd).whole rest).trans (if_pos hne)

example : ShapeOk ⟨[2, 3], 1, 6⟩ ∧ ([1, 2, 3] : Bytes).length ≠ (⟨[2, 3], 1, 6⟩ : Shape).size * 4 :=
  ⟨exampleShapeOk, by decide⟩

/-- a record named after a parameter the model does not have -/
theorem unknown_name_rejected (ws : Bool) (dev : Dev) (n : Nat) (k : Path) (rest : Bytes) (st : MState)
    (hk : PathOk k) (hno : hasKey st k = false) :
    loadEntries ws dev (n + 1) (pathC.enc k ++ rest) st = (some .invalid, st) := by
  simp only [loadEntries]
  rw [lawful_pathC.roundtrip k rest hk]
  simp only [hasKey] at hno
  simp [hno]

/-- a complete, otherwise well-formed record whose value has batch size ≠ 1 -/
theorem batch_rejected (p : Param) (wsSave wsLoad : Bool) (dev : Dev) (rest : Bytes)
    (hv : TensorOk p.value) (hb : p.value.shape.batch > 1) (hn : p.stats.length < 4294967296)
    (hst : ∀ x ∈ p.stats, StatOk x) :
    loadInner (saveInner p wsSave ++ rest) wsLoad dev = .error .invalid :=
  ((reads_loadInner p wsSave wsLoad dev hv hn hst).whole rest).trans (if_pos (by simp [Shape.hasBatch, hb]))

/-- `Parameter::load`: shape, device, value, gradient and statistics change together or not at all -/
theorem param_atomic (old : PState) (file : Bytes) (ws : Bool) (dev : Dev) (e : DErr) (post : PState)
    (h : Param.load old file ws dev = (some e, post)) : post = old := by
  rw [Param.load] at h
  cases hp : Param.parse file ws dev with
  | ok p r => rw [hp] at h; cases h
  | error e' => rw [hp] at h; exact (Prod.mk.inj h).2.symm

/-- `Model::load`, failing or not: the set of names is unchanged and every Parameter is either exactly as
it was or exactly a record that `load_inner` parsed to its end -/
theorem model_atomic (old : MState) (file : Bytes) (ws : Bool) (dev : Dev) (r : Option DErr) (post : MState)
    (h : Model.load old file ws dev = (r, post)) :
    post.map Prod.fst = old.map Prod.fst ∧
      ∀ x ∈ post, x ∈ old ∨ ∃ bs' p rest, loadInner bs' ws dev = .ok p rest ∧ x.2 = some p := by
  rw [Model.load] at h
  cases hc : Model.parseCount file with
  | error e =>
    rw [hc] at h; simp only [Model.loadFrom] at h
    obtain ⟨_, rfl⟩ := Prod.mk.inj h; exact ⟨rfl, fun x hx => Or.inl hx⟩
  | ok n r1 => rw [hc] at h; exact loadEntries_atomic ws dev n r1 old r post h

theorem optimizer_unchanged_on_failure (old : Opt) (file : Bytes) (e : DErr) (post : Opt)
    (h : Opt.load old file = (some e, post)) : post = old := by
  rw [Opt.load] at h
  cases hp : Opt.parse file with
  | ok c r => rw [hp] at h; cases h
  | error e' => rw [hp] at h; exact (Prod.mk.inj h).2.symm

/-- `save` returns normally only if every byte was produced and taken by the file: an unopenable
path, a device that is full from the start (`capacity 0`) or after any number of bytes, an invalid
parameter — all end in an Error.  (`saveTo` models `save` with patches/fix-save-stream, which /repo
has; without it `save` returns normally when the stream fails after `open`.) -/
theorem save_failure_reported (bytes : Option Bytes) (sink : Sink) (h : saveTo bytes sink = true) :
    ∃ bs n, bytes = some bs ∧ sink = .capacity n ∧ bs.length ≤ n := by
  cases bytes with
  | none => simp [saveTo] at h
  | some bs =>
    cases sink with
    | unopenable => simp [saveTo, Sink.accepts] at h
    | capacity n => exact ⟨bs, n, rfl, rfl, by simpa [saveTo, Sink.accepts] using h⟩

example : saveTo (Param.save (some exampleParam) true) (.capacity 0) = false := by decide

end Primitiv.C14
