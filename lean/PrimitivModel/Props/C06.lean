import PrimitivModel.Model.Graph
import PrimitivModel.Lemmas.GraphSweep
import PrimitivModel.Lemmas.GraphLive
/-!
C06 — gradient accumulation and isolation protocol of `backward()`.

All statements are about the executable model `Model/Graph.lean` that the driver
`drv_graph` runs against the real `primitiv::Graph` (τ = `List Int` there); here τ and
the tensor operations `T : TOps τ` are arbitrary unless laws are stated.

Vocabulary (`gradAt`, `ArgsBelow`, `SameFrame`, `Anc`, `fwdPhase` from `Lemmas/GraphBase.lean`, the rest
from `Lemmas/GraphSweep.lean`):
* `s.gradAt a`            the gradient stored at node `a` (`none` = invalid)
* `AllGradsInvalid s`     every node gradient is invalid
* `ArgsBelow s`           arguments refer to smaller operator ids (what `add_operator` guarantees)
* `SameFrame s s'`        `s'` differs from `s` at most in node gradients and parameter gradients:
                          kinds, arguments, sizes, node *values*, parameter values, `log`, `rndPos`,
                          `sample`, `failIn` are equal
* `Anc s.argsOf i j`      operator `i` is operator `j` or produces a transitive argument of it
* `s.mapPG f`             `s` with the table of parameter gradients replaced by `f s.params.grad`
* `s.withParams ps`       the graph `s` seen with the parameter table `ps` (`Lemmas/GraphLive.lean`)
* `fwdPhase T s a`        the "force the forward operation" prefix of `backward`
-/
namespace Primitiv.C06
open Primitiv.Graph

variable {τ : Type}

/-! ## 1. node gradients are invalid again after every pass -/

/-- If all node gradients are invalid before `backward` and it succeeds, all node gradients are
invalid after it. -/
theorem node_grads_invalid_after (T : TOps τ) (s s' : State τ) (a : Addr)
    (hg : AllGradsInvalid s) (hw : ArgsBelow s) (hb : backward T s a = (s', .ok ())) :
    AllGradsInvalid s' :=
  backward_allGradsInvalid T s s' a hg hw hb

example : ∃ (s s' : State Int) (a : Addr), AllGradsInvalid s ∧ ArgsBelow s ∧ backward TInt s a = (s', .ok ()) :=
  ⟨exSquare, _, ⟨1, 0⟩, allGradsInvalid_of_B (by decide), argsBelow_of_B (by decide), rfl⟩

/-- … as an invariant: from a new graph, after any history of `add_operator`, `forward`,
`backward`, parameter updates, gradient resets and fault schedules in which no `backward` threw and
no `CHECK_NODE` aborted, all node gradients are invalid (and arguments refer to smaller ids). -/
theorem node_grads_invalid_invariant (T : TOps τ) (params : Params τ) (sample : Nat → Nat → τ)
    (hist : List (Cmd τ)) (s' : State τ) (hr : runHist T (emptyGraph params sample) hist = some s') :
    AllGradsInvalid s' ∧ ArgsBelow s' :=
  runHist_ginv T hist _ s' (emptyGraph_ginv params sample) hr

example : ∃ s', runHist TInt (emptyGraph { value := fun _ => 3, grad := fun _ => 10 } fun _ _ => 0)
    [.addOp (.param 0) [] [1], .addOp (.op mulSem) [⟨0, 0⟩, ⟨0, 0⟩] [1], .backward ⟨1, 0⟩,
     .setValue 0 5, .backward ⟨1, 0⟩, .setGrad 0 0, .forward ⟨1, 0⟩] = some s' :=
  ⟨_, rfl⟩

/-- The invariant is preserved by every single operation of a history, from any state. -/
theorem node_grads_invalid_step (T : TOps τ) (s s' : State τ) (c : Cmd τ)
    (h : AllGradsInvalid s ∧ ArgsBelow s) (hr : c.run T s = some s') :
    AllGradsInvalid s' ∧ ArgsBelow s' :=
  Cmd.run_ginv T s s' c h hr

/-! ## 2. values are not changed by the sweep -/

/-- One iteration of the sweep changes no node value, size, kind or argument list, no parameter
value, and neither `log`, `rndPos`, `sample` nor `failIn`. -/
theorem values_unchanged_by_backwardStep (T : TOps τ) (s : State τ) (k : Nat) :
    SameFrame s (backwardStep T s k).1 :=
  backwardStep_sameFrame T s k

/-- The same for the whole loop … -/
theorem values_unchanged_by_sweep (T : TOps τ) (s : State τ) (k : Nat) :
    SameFrame s (sweep T k s).1 :=
  sweep_sameFrame T k s

/-- … and for `backward`: everything it evaluates, it evaluates through its initial `forward`. -/
theorem values_unchanged_by_backward (T : TOps τ) (s : State τ) (a : Addr) :
    SameFrame (fwdPhase T s a).1 (backward T s a).1 :=
  backward_sameFrame T s a

/-- What `SameFrame` gives pointwise: node values, the value a consumer sees, parameter values,
the evaluation log and the position of the random stream. -/
theorem values_unchanged_pointwise {s s' : State τ} (h : SameFrame s s') :
    (∀ a, (s'.node? a).map (·.value) = (s.node? a).map (·.value)) ∧
    (∀ a, s'.valueOf? a = s.valueOf? a) ∧
    s'.params.value = s.params.value ∧ s'.log = s.log ∧ s'.rndPos = s.rndPos := by
  refine ⟨fun a => ?_, fun a => skel_valueOf h.skel h.pvalue a, h.pvalue, h.log, h.rndPos⟩
  have := view_node h.skel a
  cases h1 : s'.node? a <;> cases h2 : s.node? a <;> rw [h1, h2] at this <;> simp_all [NodeInfo.skel]

/-- If the target already has a value, `backward` evaluates nothing at all. -/
theorem values_unchanged_when_evaluated (T : TOps τ) (s : State τ) (a : Addr) (n : NodeInfo τ)
    (hn : s.node? a = some n) (hv : n.value.isSome = true) : SameFrame s (backward T s a).1 := by
  have h := values_unchanged_by_backward T s a
  have : fwdPhase T s a = (s, .ok ()) := by simp [fwdPhase, hn, hv]
  rw [this] at h
  exact h

/-! ## 3. parameters that are not ancestors of the target -/

/-- The gradient of a parameter `p`, none of whose Parameter operators is an ancestor of the target,
is not written by `backward`: the stored tensor afterwards *is* the stored tensor before, for any
tensor type and any `add` (so bit for bit), whether or not `backward` succeeds. -/
theorem non_ancestors_untouched (T : TOps τ) (s : State τ) (a : Addr) (p : Nat)
    (hg : AllGradsInvalid s)
    (hp : ∀ i, s.kindAt i = some (.param p) → ¬ Anc s.argsOf i a.oid) :
    (backward T s a).1.params.grad p = s.params.grad p :=
  backward_pgrad_of_inv T s a p (OnlyAnc s.argsOf a.oid)
    (fun s1 hf => onlyAnc_seed T s1 a (hf.allGradsInvalid hg))
    (fun s' k hs hi => ⟨onlyAnc_backwardStep T _ k (view_argsOf hs) hi,
      backwardStep_pgrad T _ k p hi (by rw [view_kindAt hs]; exact hp)⟩)

/-- parameter 1 does not occur in `exSquare` at all -/
example : AllGradsInvalid exSquare ∧ ∀ i, exSquare.kindAt i = some (.param 1) → ¬ Anc exSquare.argsOf i 1 := by
  refine ⟨allGradsInvalid_of_B (by decide), fun i hi => ?_⟩
  obtain ⟨o, ho, hk⟩ := Option.map_eq_some_iff.1 hi
  exact absurd hk (forall_getElem?_cons (P := fun _ o => o.kind ≠ .param 1) (by intro h; cases h)
    (forall_getElem?_cons (by intro h; cases h) forall_getElem?_nil) i o ho)

/-! ## 4. `backward` only adds -/

/-- For an associative `add`: the result from any prior parameter gradients is the prior gradient
plus (`shiftG`: `p ↦ add (g0 p) (·)`) the result `D` from the zero gradients `z`; success or failure
and all other components of the state do not depend on the prior gradients.  No hypothesis on the
state. -/
theorem backward_adds (T : TOps τ) (hassoc : ∀ x y z : τ, T.add (T.add x y) z = T.add x (T.add y z))
    (s : State τ) (a : Addr) (z : Nat → τ) (hz : ∀ p x, T.add x (z p) = x) :
    (∀ p, (backward T s a).1.params.grad p =
       T.add (s.params.grad p) ((backward T (s.mapPG fun _ => z) a).1.params.grad p)) ∧
    (backward T s a).2 = (backward T (s.mapPG fun _ => z) a).2 ∧
    (backward T s a).1.ops = (backward T (s.mapPG fun _ => z) a).1.ops := by
  have h := backward_adds_gen T hassoc s a z hz
  refine ⟨fun p => ?_, ?_, ?_⟩ <;> rw [h] <;> rfl

example : (∀ x y z : Int, TInt.add (TInt.add x y) z = TInt.add x (TInt.add y z)) ∧
    (∀ (p : Nat) (x : Int), TInt.add x ((fun _ => (0 : Int)) p) = x) :=
  ⟨fun x y z => Int.add_assoc x y z, fun _ x => Int.add_zero x⟩

/-- Without a neutral element: shifting the prior gradients by `g` in front shifts the result by `g`. -/
theorem backward_adds_shift (T : TOps τ) (hassoc : ∀ x y z : τ, T.add (T.add x y) z = T.add x (T.add y z))
    (s : State τ) (a : Addr) (g : Nat → τ) :
    backward T (s.mapPG (shiftG T g)) a =
      ((backward T s a).1.mapPG (shiftG T g), (backward T s a).2) :=
  backward_shift T hassoc g a s

/-- `k` calls add `k` times the same `D` (`addN T k g d = g + d + … + d`), and change nothing else,
when the forward phase is a no-op (the target is evaluated: "values unchanged"). -/
theorem k_backwards (T : TOps τ) (hassoc : ∀ x y z : τ, T.add (T.add x y) z = T.add x (T.add y z))
    (s : State τ) (a : Addr) (z : Nat → τ) (hz : ∀ p x, T.add x (z p) = x)
    (hg : AllGradsInvalid s) (hw : ArgsBelow s)
    (hstable : fwdPhase T s a = (s, .ok ())) (hok : (backward T s a).2 = .ok ()) (k : Nat) :
    iterBackward T a k s =
      s.mapPG (fun _ p => addN T k (s.params.grad p) ((backward T (s.mapPG fun _ => z) a).1.params.grad p)) :=
  iterBackward_stable T hassoc s a z hz hg hw hstable hok k s.params.grad

/-- the state after one `backward` on `exSquare` satisfies the hypotheses of `k_backwards` -/
example : let s := (backward TInt exSquare ⟨1, 0⟩).1
    AllGradsInvalid s ∧ ArgsBelow s ∧ fwdPhase TInt s ⟨1, 0⟩ = (s, .ok ()) ∧ (backward TInt s ⟨1, 0⟩).2 = .ok () :=
  ⟨allGradsInvalid_of_B (by decide), argsBelow_of_B (by decide), rfl, rfl⟩

/-- Operators with an id `≥ k` are neither read nor written by `sweep T k`: appending any operators
to the graph commutes with the sweep. -/
theorem later_nodes_irrelevant (T : TOps τ) (extra : List (OpInfo τ)) (k : Nat) (s : State τ)
    (hk : k ≤ s.ops.length) (hw : ArgsBelow s) :
    sweep T k (s.appendOps extra) = ((sweep T k s).1.appendOps extra, (sweep T k s).2) :=
  sweep_comm (appendOps_transparent T extra) k s (fun _ hi => ⟨Nat.lt_of_lt_of_le hi hk, hw⟩)

example : (2 : Nat) ≤ exSquare.ops.length ∧ ArgsBelow exSquare := ⟨by decide, argsBelow_of_B (by decide)⟩

/-- … and the same for the whole of `backward`, forward phase included: operators created after
the target influence neither the resulting gradients nor success, and are themselves untouched. -/
theorem later_nodes_irrelevant_backward (T : TOps τ) (extra : List (OpInfo τ)) (s : State τ) (a : Addr)
    (hv : s.validAddr a = true) (hw : ArgsBelow s) :
    backward T (s.appendOps extra) a = ((backward T s a).1.appendOps extra, (backward T s a).2) :=
  backward_comm (appendOps_transparent T extra) s a
    (fun _ hi => ⟨Nat.lt_of_le_of_lt hi (validAddr_lt hv), hw⟩)

example : exSquare.validAddr ⟨1, 0⟩ = true ∧ ArgsBelow exSquare := ⟨by decide, argsBelow_of_B (by decide)⟩

/-- `reset_gradient()` of parameter `p` (modelled as the history operation `setGrad p (zeros n)`):
afterwards the gradient of `p` is exactly `zeros n` and nothing else has changed; and — the base case
of the accumulation — a following `backward` leaves in `p` exactly `D p`, the result from zero
gradients, when `zeros n` is neutral on the left (the other parameters get `g0 q + D q` as always). -/
theorem reset_gradient_zero (T : TOps τ) (hassoc : ∀ x y z : τ, T.add (T.add x y) z = T.add x (T.add y z))
    (s s0 : State τ) (a : Addr) (p n : Nat) (z : Nat → τ) (hz : ∀ q x, T.add x (z q) = x)
    (hzl : ∀ x, T.add (T.zeros n) x = x)
    (hr : (Cmd.setGrad p (T.zeros n)).run T s = some s0) :
    s0.params.grad p = T.zeros n ∧ (∀ q, q ≠ p → s0.params.grad q = s.params.grad q) ∧
    s0.ops = s.ops ∧ s0.params.value = s.params.value ∧ s0.log = s.log ∧ s0.rndPos = s.rndPos ∧
    (backward T s0 a).1.params.grad p = (backward T (s.mapPG fun _ => z) a).1.params.grad p ∧
    (∀ q, q ≠ p → (backward T s0 a).1.params.grad q =
      T.add (s.params.grad q) ((backward T (s.mapPG fun _ => z) a).1.params.grad q)) := by
  simp only [Cmd.run, Option.some.injEq] at hr
  subst hr
  have h := backward_mapPG_grad T hassoc s a z hz fun q => if q = p then T.zeros n else s.params.grad q
  refine ⟨if_pos rfl, fun q hq => if_neg hq, rfl, rfl, rfl, rfl, ?_, fun q hq => ?_⟩
  · exact (h p).trans (by rw [if_pos rfl, hzl])
  · exact (h q).trans (by rw [if_neg hq])

example : (∀ x y z : Int, TInt.add (TInt.add x y) z = TInt.add x (TInt.add y z)) ∧
    (∀ (q : Nat) (x : Int), TInt.add x ((fun _ => (0 : Int)) q) = x) ∧
    (∀ x : Int, TInt.add (TInt.zeros 1) x = x) ∧
    ∃ s0, (Cmd.setGrad 0 (TInt.zeros 1)).run TInt exSquare = some s0 :=
  ⟨fun x y z => Int.add_assoc x y z, fun _ x => Int.add_zero x, fun x => Int.zero_add x, _, rfl⟩

/-- Two graphs `sA`, `sB` over the same parameters (`sB.params = sA.params`; the parameter table is
threaded from one pass to the next with `withParams`), `add` associative and commutative, `z` neutral:
`backward` in A then in B, or in B then in A, accumulates both derivatives `DA`, `DB` (each graph's
result from zero gradients) on top of the prior gradients — the same table of gradients in either
order, parameter values unchanged.  What a pass does to its own graph (nodes, outcome) does not depend
on whether the other graph's pass ran before, and a pass does not touch the other graph's nodes
(its node values and node gradients are not even an input of the pass). -/
theorem shared_parameters_across_graphs (T : TOps τ)
    (hassoc : ∀ x y z : τ, T.add (T.add x y) z = T.add x (T.add y z))
    (hcomm : ∀ x y : τ, T.add x y = T.add y x)
    (sA sB : State τ) (a b : Addr) (z : Nat → τ) (hz : ∀ p x, T.add x (z p) = x)
    (hshare : sB.params = sA.params) :
    let DA := (backward T (sA.mapPG fun _ => z) a).1.params.grad
    let DB := (backward T (sB.mapPG fun _ => z) b).1.params.grad
    let rA := backward T sA a
    let rB := backward T (sB.withParams rA.1.params) b      -- A, then B
    let rB' := backward T sB b
    let rA' := backward T (sA.withParams rB'.1.params) a    -- B, then A
    (∀ p, rB.1.params.grad p = T.add (T.add (sA.params.grad p) (DA p)) (DB p)) ∧
    (∀ p, rA'.1.params.grad p = T.add (T.add (sA.params.grad p) (DB p)) (DA p)) ∧
    rB.1.params.grad = rA'.1.params.grad ∧
    rB.1.params.value = sA.params.value ∧ rA'.1.params.value = sA.params.value ∧
    rA'.1.ops = rA.1.ops ∧ rA'.2 = rA.2 ∧ rB.1.ops = rB'.1.ops ∧ rB.2 = rB'.2 ∧
    (sB.withParams rA.1.params).ops = sB.ops ∧ (sA.withParams rB'.1.params).ops = sA.ops := by
  intro DA DB rA rB rB' rA'
  obtain ⟨g1, v1, o1, e1⟩ := backward_then T hassoc sA sB a b z hz (congrArg (·.value) hshare)
  obtain ⟨g2, v2, o2, e2⟩ := backward_then T hassoc sB sA b a z hz (congrArg (·.value) hshare.symm)
  rw [hshare] at g2 v2
  exact ⟨g1, g2, funext fun p => by rw [g1 p, g2 p, hassoc, hassoc, hcomm (DA p)], v1, v2, o2, e2, o1, e1, rfl, rfl⟩

/-- `y = x * x` and `y' = stop_gradient(p0) + p1` over the same two integer parameters -/
example : (∀ x y z : Int, TInt.add (TInt.add x y) z = TInt.add x (TInt.add y z)) ∧
    (∀ x y : Int, TInt.add x y = TInt.add y x) ∧
    (∀ (p : Nat) (x : Int), TInt.add x ((fun _ => (0 : Int)) p) = x) ∧
    (exBlocked TInt 3 10).params = exSquare.params :=
  ⟨fun x y z => Int.add_assoc x y z, fun x y => Int.add_comm x y, fun _ x => Int.add_zero x, rfl⟩

/-- … on which both orders give gradient `10 + 6 + 0` for parameter 0 and `10 + 0 + 1` for parameter 1 -/
example :
    (backward TInt ((exBlocked TInt 3 10).withParams (backward TInt exSquare ⟨1, 0⟩).1.params) ⟨3, 0⟩).1.params.grad 0 = 16 ∧
    (backward TInt (exSquare.withParams (backward TInt (exBlocked TInt 3 10) ⟨3, 0⟩).1.params) ⟨1, 0⟩).1.params.grad 0 = 16 ∧
    (backward TInt ((exBlocked TInt 3 10).withParams (backward TInt exSquare ⟨1, 0⟩).1.params) ⟨3, 0⟩).1.params.grad 1 = 11 ∧
    (backward TInt (exSquare.withParams (backward TInt (exBlocked TInt 3 10) ⟨3, 0⟩).1.params) ⟨1, 0⟩).1.params.grad 1 = 11 := by
  decide

/-! ## 5. blocked paths -/

/-- Exact arithmetic (`x + zeros n = x`; every rule fed with zero gradients contributes zeros —
`ZeroPreserving`): a parameter all of whose Parameter nodes lie in a set `Z` of nodes from which the
target is reachable only through argument positions whose backward rule contributes nothing
(`BlockedSet`, e.g. below `stop_gradient`) keeps the *value* of its gradient.  The sweep does reach
these nodes: it zero-fills their gradients and adds zeros into them. -/
theorem blocked_paths_add_zero_partial (T : TOps τ) (hz : ∀ n x, T.add x (T.zeros n) = x)
    (Z : Addr → Prop) (s : State τ) (a : Addr) (p : Nat)
    (hg : AllGradsInvalid s) (ha : ¬ Z a)
    (hB : BlockedSet s.shape Z) (hP : ZeroPreserving T s.shape Z)
    (hp : ∀ i, s.kindAt i = some (.param p) → Z ⟨i, 0⟩) :
    (backward T s a).1.params.grad p = s.params.grad p :=
  backward_pgrad_of_inv T s a p (ZInv T s.shape Z)
    (fun s1 hf => zinv_seed T _ Z s1 a (hf.allGradsInvalid hg) ha)
    (fun s' k hs hi => ⟨backwardStep_zinv T hz Z k hs hB hP hi,
      backwardStep_pgrad_blocked T hz Z k p hs hi (by rw [view_kindAt hs]; exact hp)⟩)

/-- `y = stop_gradient(p0) + p1` over the integers, `Z = {the Parameter node of p0}` -/
example : (∀ (n : Nat) (x : Int), TInt.add x (TInt.zeros n) = x) ∧
    AllGradsInvalid (exBlocked TInt 3 10) ∧ ¬ ((⟨3, 0⟩ : Addr) = ⟨0, 0⟩) ∧
    BlockedSet (exBlocked TInt 3 10).shape (fun b => b = ⟨0, 0⟩) ∧
    ZeroPreserving TInt (exBlocked TInt 3 10).shape (fun b => b = ⟨0, 0⟩) ∧
    (∀ i, (exBlocked TInt 3 10).kindAt i = some (.param 0) → (⟨i, 0⟩ : Addr) = ⟨0, 0⟩) :=
  ⟨fun _ x => Int.add_zero x, allGradsInvalid_of_B (by decide), by decide, exBlocked_blockedSet _ _ _,
   exBlocked_zeroPreserving _ _ _, fun i hi => by rw [exBlocked_kindAt _ _ _ i hi]⟩

/-- The full statement "the gradient of such a parameter is not written at all" — i.e. the stored
tensor is the same for *every* tensor type and `add`, as in `non_ancestors_untouched` — is FALSE for
this code: see `Props/Findings/C06Blocked.lean` (`blocked_paths_written_witness`).  The sweep
zero-fills the argument gradients of every enabled operator (graph.cc:210-212), so zeros are
propagated below the blocker and finally `+=`-ed into the parameter. -/
def blocked_paths_untouched_full : Prop :=
  ∀ (τ : Type) (T : TOps τ) (Z : Addr → Prop) (s : State τ) (a : Addr) (p : Nat),
    AllGradsInvalid s → ArgsBelow s → ¬ Z a → BlockedSet s.shape Z →
    (∀ i, s.kindAt i = some (.param p) → Z ⟨i, 0⟩) →
    (backward T s a).1.params.grad p = s.params.grad p

end Primitiv.C06
