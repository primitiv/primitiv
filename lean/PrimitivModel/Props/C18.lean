import PrimitivModel.Model.Pool
import PrimitivModel.Lemmas.Pool
/-
C18 — MemoryPool never double-supplies, never leaks, tolerates outliving handles.

Every theorem is about the executable model `Model/Pool.lean` (the definitions
the driver `drv_pool` runs) and holds for **all histories** of client calls
(create / alloc / drop / destroy over any number of pools, any sizes) and
**all allocators** that never return a pointer which is still outstanding
(`Oracle.Fresh`): in particular the allocator may fail at any of its calls and
may hand a deleted address out again.  `run h` is the state after the history
`h`; the invariant `WInv` behind the theorems is in `Lemmas/Pool.lean`.
-/
namespace Primitiv.C18
open Primitiv.Pool

/-- `calculate_shifts(x)` is `⌈log2 x⌉` for every 64-bit `x ≠ 0`: the least `s` with `x ≤ 2^s`
(and 64 for `x = 0`, as documented). -/
theorem calculate_shifts_spec (x : Nat) (hx : x < 2 ^ 64) :
    (x = 0 → calculateShifts x = 64) ∧
    (x ≠ 0 → x ≤ 2 ^ calculateShifts x ∧ ∀ t, x ≤ 2 ^ t → calculateShifts x ≤ t) :=
  ⟨fun h => by simp [calculateShifts, h], fun h0 =>
    ⟨(calculateShifts_le_iff x h0 hx _).1 (Nat.le_refl _), fun t => (calculateShifts_le_iff x h0 hx t).2⟩⟩

example : calculateShifts 1 = 0 ∧ calculateShifts 1025 = 11 ∧ calculateShifts (2 ^ 63) = 63 ∧
    calculateShifts (2 ^ 63 + 1) = 64 := by decide

/-- size 0: a null handle, `*allocated_size == 0`, nothing changes, no callback is called -/
theorem Pool.size_zero_null (ora : Oracle) (P : MPool) (log : Log) :
    P.allocate ora log 0 = (P, log, .null) := allocate_null ora P log

/-- sizes (after raising to the minimum size) above 2^63: Error, nothing changes, no callback -/
theorem Pool.size_above_2_63_error (ora : Oracle) (P : MPool) (log : Log) (size : Nat) (h0 : size ≠ 0)
    (hs : size < 2 ^ 64) (hm : P.minSize < 2 ^ 64) (hbig : max size P.minSize > 2 ^ 63) :
    P.allocate ora log size = (P, log, .error) :=
  allocate_tooBig ora P log size h0 ((calculateShifts_gt_63 _ (by omega) (by omega)).2 hbig)

example : ((MPool.new 0 0).allocate (fun _ _ => some 7) [] (2 ^ 63 + 1)).2.2 = .error := by decide

/-- every block handed out has the smallest power-of-two size not below max(requested, minimum
size), and that size is what `*allocated_size` reports (`m`); sizes up to 2^63 are never rejected
by the size check -/
theorem Pool.size_class (ora : Oracle) (P : MPool) (log : Log) (size : Nat) (hs : size < 2 ^ 64)
    (hm : P.minSize < 2 ^ 64) (ptr : Ptr) (m : Nat) (hr : (P.allocate ora log size).2.2 = .block ptr m) :
    ∃ s, s ≤ 63 ∧ m = 2 ^ s ∧ max size P.minSize ≤ m ∧ ∀ t, max size P.minSize ≤ 2 ^ t → m ≤ 2 ^ t := by
  obtain ⟨k, hk, rfl⟩ := allocate_block_size ora P log size ptr m hr
  have h0 : size ≠ 0 := fun h => by rw [h, allocate_null] at hr; cases hr
  obtain ⟨h1, h2⟩ := (calculate_shifts_spec (max size P.minSize) (by omega)).2 (by omega)
  exact ⟨k, by omega, rfl, hk ▸ h1, fun t ht => hk ▸ Nat.pow_le_pow_right (by decide) (h2 t ht)⟩

example : ((MPool.new 0 10).allocate (fun _ _ => some 7) [] 3).2.2 = .block 7 16 := by decide

/-- the size check is the only reason for a size in range to yield no block: either a block is
handed out or the newest call in the log is a failed allocator call of the class size (the second
one, by `retry_once`) -/
theorem Pool.size_in_range_served (ora : Oracle) (P : MPool) (log : Log) (size : Nat) (h0 : size ≠ 0)
    (hs : size < 2 ^ 64) (hm : P.minSize < 2 ^ 64) (hle : max size P.minSize ≤ 2 ^ 63) :
    (∃ ptr m, (P.allocate ora log size).2.2 = .block ptr m) ∨
    ((P.allocate ora log size).2.2 = .error ∧
      (((P.allocate ora log size).2.1.take 1).filter Event.isAlloc = [.alloc (2 ^ calculateShifts (max size P.minSize)) none])) := by
  have h63 : ¬ calculateShifts (max size P.minSize) > 63 :=
    fun h => absurd ((calculateShifts_gt_63 _ (by omega) (by omega)).1 h) (by omega)
  rw [allocate_eq ora P log size h0 ⟨calculateShifts (max size P.minSize), by omega⟩ rfl]
  unfold allocAt
  split
  · split
    · exact Or.inl ⟨_, _, rfl⟩
    · split
      · exact Or.inl ⟨_, _, rfl⟩
      · exact Or.inr ⟨rfl, rfl⟩
  · exact Or.inl ⟨_, _, rfl⟩

/-- over all histories: the block behind a returned handle was obtained from the allocator with
exactly the reported `allocated_size` -/
theorem Pool.allocated_size_is_capacity (h : History) (hf : h.Fresh) (ora : Oracle) (hfo : ora.Fresh)
    (pid name size : Nat) (ptr : Ptr) (as : Nat)
    (hr : ((run h).step ora (.alloc pid name size)).2 = .handle (some ptr) as) :
    allocSize ((run h).step ora (.alloc pid name size)).1.log ptr = some as := by
  obtain ⟨P, hfind, hlog, hres⟩ := step_alloc_handle hr
  rw [hlog]
  exact ((WInv.run h hf).allocate_block hfo hfind hres).1

/-- over all histories: all blocks owned by live pools (supplied or in a free list) are pairwise
distinct; in particular live blocks are pairwise distinct and never in a free list -/
theorem Pool.disjoint (h : History) (hf : h.Fresh) : (ownedAll (run h)).Nodup :=
  (WInv.run h hf).nodup_owned

/-- … spelled out: a block supplied by a live pool is in no free list of any live pool -/
theorem Pool.supplied_not_in_free_list (h : History) (hf : h.Fresh) (P Q : MPool) (hP : P ∈ (run h).pools)
    (hQ : Q ∈ (run h).pools) (x : Ptr) (k : Fin 64) (hx : x ∈ P.keys) : x ∉ Q.reserved k :=
  fun hq => (WInv.run h hf).supplied_not_reserved hP hQ hx (mem_flat.2 ⟨k, hq⟩)

/-- … and is supplied by one pool only, under one key -/
theorem Pool.supplied_once (h : History) (hf : h.Fresh) (P Q : MPool) (hP : P ∈ (run h).pools)
    (hQ : Q ∈ (run h).pools) (x : Ptr) (hx : x ∈ P.keys) (hxq : x ∈ Q.keys) : P = Q ∧ P.keys.Nodup :=
  ⟨(WInv.run h hf).supplied_unique hP hQ hx hxq,
   (List.nodup_append.1 ((WInv.run h hf).pool_nodup hP)).2.1⟩

/-- over all histories: the block handed out by `alloc` is not supplied by any live pool at that
moment (a pointer is never supplied twice while live) -/
theorem Pool.never_double_supplies (h : History) (hf : h.Fresh) (ora : Oracle) (hfo : ora.Fresh)
    (pid name size : Nat) (ptr : Ptr) (as : Nat)
    (hr : ((run h).step ora (.alloc pid name size)).2 = .handle (some ptr) as) :
    ∀ Q ∈ (run h).pools, ptr ∉ Q.keys := by
  obtain ⟨P, hfind, _, hres⟩ := step_alloc_handle hr
  exact ((WInv.run h hf).allocate_block hfo hfind hres).2

/-- the supplied blocks of a live pool are exactly the blocks its live handles refer to -/
theorem Pool.supplied_iff_referenced (h : History) (hf : h.Fresh) (P : MPool) (hP : P ∈ (run h).pools) :
    (hptrs (run h).handles P.id).Perm P.keys := (WInv.run h hf).hperm P hP

/-- a released block of the class is reused — the most recently released one — and neither the
allocator nor the deleter is called -/
theorem Pool.reuse_before_alloc (ora : Oracle) (P : MPool) (log : Log) (size : Nat) (h0 : size ≠ 0) (k : Fin 64)
    (hk : k.val = calculateShifts (max size P.minSize)) (ptr : Ptr) (rest : List Ptr)
    (hr : P.reserved k = ptr :: rest) :
    P.allocate ora log size =
      ({ P with reserved := setClass P.reserved k rest, supplied := MPool.emplace P.supplied ptr k }, log,
        .block ptr (2 ^ k.val)) := by
  rw [allocate_eq ora P log size h0 k hk, allocAt, hr]

/-- `free` puts the block at the back of the free list of its class, where `allocate` looks first -/
theorem Pool.free_then_reuse (P P' : MPool) (ptr : Ptr) (hfree : P.free ptr = some P') :
    ∃ k, (ptr, k) ∈ P.supplied ∧ P'.reserved k = ptr :: P.reserved k := by
  obtain ⟨k, hk, rfl⟩ := free_some hfree
  exact ⟨k, hk.symm.subset (List.mem_cons_self ..), setClass_same _ _ _⟩

example : ((⟨0, 0, fun k => if k = 2 then [5, 6] else [], []⟩ : MPool).allocate (fun _ _ => none) [] 3).2
    = ([], .block 5 4) := by decide

/-- the class has no free block and the allocator answers: exactly one allocator call, no deleter call -/
theorem Pool.alloc_when_class_empty (ora : Oracle) (P : MPool) (log : Log) (size : Nat) (h0 : size ≠ 0)
    (k : Fin 64) (hk : k.val = calculateShifts (max size P.minSize)) (hr : P.reserved k = []) (ptr : Ptr)
    (ho : ora log (2 ^ k.val) = some ptr) :
    P.allocate ora log size =
      ({ P with supplied := MPool.emplace P.supplied ptr k }, .alloc (2 ^ k.val) (some ptr) :: log,
        .block ptr (2 ^ k.val)) := by
  rw [allocate_eq ora P log size h0 k hk, allocAt, hr]
  simp only [ho]

/-- the allocator fails: every cached block of the pool is passed to the deleter, then the
allocator is called exactly once more with the same size; its answer decides (block or Error) -/
theorem Pool.retry_once (ora : Oracle) (P : MPool) (log : Log) (size : Nat) (h0 : size ≠ 0)
    (k : Fin 64) (hk : k.val = calculateShifts (max size P.minSize)) (hr : P.reserved k = [])
    (ho : ora log (2 ^ k.val) = none) :
    let log1 := relLog (flat P.reserved) (.alloc (2 ^ k.val) none :: log)
    (P.allocate ora log size).2.1 = .alloc (2 ^ k.val) (ora log1 (2 ^ k.val)) :: log1 ∧
    (P.allocate ora log size).1.reserved = (fun _ => []) ∧
    (P.allocate ora log size).2.2 =
      (match ora log1 (2 ^ k.val) with
        | some ptr => .block ptr (2 ^ k.val)
        | none => .error) := by
  rw [allocate_eq ora P log size h0 k hk, allocAt, hr]
  simp only [ho]
  cases ora (relLog (flat P.reserved) (.alloc (2 ^ k.val) none :: log)) (2 ^ k.val) <;> exact ⟨rfl, rfl, rfl⟩

example : ((⟨0, 0, fun k => if k = 2 then [5, 6] else [], []⟩ : MPool).allocate
      (fun log _ => if log.length < 1 then none else some 9) [] 100).2
    = ([.alloc 128 (some 9), .del 6, .del 5, .alloc 128 none], .block 9 128) := by decide

/-- in every case `allocate` calls the allocator at most twice and the deleter only for blocks in
this pool's free lists -/
theorem Pool.at_most_two_allocator_calls (ora : Oracle) (P : MPool) (log : Log) (size : Nat) :
    ∃ evs, (P.allocate ora log size).2.1 = evs ++ log ∧ (∀ x ∈ dels evs, x ∈ flat P.reserved) ∧
      (evs.filter Event.isAlloc).length ≤ 2 := allocate_events ora P log size

/-- over all histories: the call log is well formed — the deleter is only ever called for a pointer
that is outstanding (so never twice for one allocation, never for an unknown pointer) -/
theorem Pool.deleter_only_outstanding (h : History) (hf : h.Fresh) : Log.wf (run h).log := (WInv.run h hf).wf

/-- over all histories and all pointers: deletions = allocations, minus one while the block is
still owned by a live pool; a block is owned at most once -/
theorem Pool.deleter_count (h : History) (hf : h.Fresh) (p : Ptr) :
    allocCount p (run h).log = delCount p (run h).log + (ownedAll (run h)).count p ∧
    (ownedAll (run h)).count p ≤ 1 := by
  have hi := WInv.run h hf
  rw [hi.perm.count_eq]
  refine ⟨wf_count p hi.wf, ?_⟩
  rw [(wf_nodup hi.wf).count]
  split <;> omega

/-- over all histories that end with every pool destroyed: every pointer was passed to the deleter
exactly as often as the allocator returned it (nothing leaks, nothing is deleted twice) -/
theorem Pool.deleter_exactly_once (h : History) (hf : h.Fresh) (hend : (run h).pools = []) (p : Ptr) :
    delCount p (run h).log = allocCount p (run h).log := by
  have := (Pool.deleter_count h hf p).1
  simp [ownedAll, hend] at this
  exact this.symm

/-- … in particular, with an allocator that never hands the same address out twice, every pointer
obtained from the allocator is passed to the deleter exactly once -/
theorem Pool.deleter_exactly_once_injective (h : History) (hf : h.Fresh) (hend : (run h).pools = [])
    (hinj : ∀ p, allocCount p (run h).log ≤ 1) (p : Ptr) (hp : 0 < allocCount p (run h).log) :
    delCount p (run h).log = 1 := by
  have := Pool.deleter_exactly_once h hf hend p
  have := hinj p
  omega

/-- the destructor passes exactly the blocks the pool still owns (supplied and cached) to the
deleter, each once, and no block of another live pool -/
theorem Pool.destroy_deletes_owned (h : History) (hf : h.Fresh) (ora : Oracle) (pid : Nat) (P : MPool)
    (hfind : (run h).findPool pid = some P) :
    ∃ evs, ((run h).step ora (.destroy pid)).1.log = evs ++ (run h).log ∧ (dels evs).Perm P.owned ∧
      (dels evs).Nodup ∧ evs.filter Event.isAlloc = [] ∧
      ∀ Q ∈ (run h).pools, Q ≠ P → ∀ x ∈ dels evs, x ∉ Q.owned := by
  have hi := WInv.run h hf
  obtain ⟨evs, h1, h2, h3⟩ := step_events_destroy ora (run h) pid P hfind
  refine ⟨evs, h1, h2, h2.symm.nodup (hi.pool_nodup (findPool_mem hfind)), h3, fun Q hQ hne x hx => ?_⟩
  rcases hi.pools_disjoint (findPool_mem hfind) hQ with e | e
  · exact absurd e.symm hne
  · exact e.2 x (h2.subset hx)

/-- before its pool is destroyed a block is never passed to the deleter while it is supplied
(referenced): `alloc` deletes only blocks from free lists, `create` and `drop` delete nothing -/
theorem Pool.deleter_never_while_supplied (h : History) (hf : h.Fresh) (ora : Oracle) (op : Op)
    (hop : ∀ pid, op ≠ .destroy pid) :
    ∃ evs, ((run h).step ora op).1.log = evs ++ (run h).log ∧
      ∀ x ∈ dels evs, ∀ Q ∈ (run h).pools, x ∉ Q.keys := by
  have hi := WInv.run h hf
  cases op with
  | create m => exact ⟨[], rfl, fun _ hx => (nomatch hx)⟩
  | drop name => exact ⟨[], (step_drop_silent ora (run h) name).1, fun _ hx => (nomatch hx)⟩
  | destroy pid => exact absurd rfl (hop pid)
  | alloc pid name size =>
    obtain ⟨evs, h1, h2, _⟩ := step_events_alloc ora (run h) pid name size
    refine ⟨evs, h1, fun x hx Q hQ hq => ?_⟩
    obtain ⟨P, hfind, hxr⟩ := h2 x hx
    exact hi.supplied_not_reserved hQ (findPool_mem hfind) hq hxr

/-- releasing a handle never raises an error and never calls a callback, in any state -/
theorem Pool.drop_is_silent (ora : Oracle) (w : World) (name : Nat) :
    (w.step ora (.drop name)).1.log = w.log ∧
    (w.step ora (.drop name)).2 = if (w.findHandle name).isSome then .unit else .invalid :=
  step_drop_silent ora w name

/-- over all histories: releasing a handle whose pool is gone changes nothing but the set of
handles; and the id of that pool is never the id of a live pool again, whatever happens later, so
the handle stays safe to release -/
theorem Pool.outliving_handles_safe (h : History) (hf : h.Fresh) (ora : Oracle) (name : Nat) (hd : Handle)
    (hfh : (run h).findHandle name = some hd) (hgone : (run h).findPool hd.pool = none) :
    (run h).step ora (.drop name) =
      ({ run h with handles := (run h).handles.filter (·.1 != name) }, .unit) ∧
    ∀ h2 : History, (runFrom (run h) h2).findPool hd.pool = none := by
  have hi := WInv.run h hf
  refine ⟨by simp [World.step, hfh, hgone], fun h2 => ?_⟩
  have hmem := List.mem_of_find?_eq_some (findHandle_mem hfh)
  have hlt : hd.pool < (run h).nextId := hi.hlt _ hmem
  obtain ⟨_, h3⟩ := dead_stays_dead hd.pool h2 (run h) hlt fun Q hQ => findPool_none hgone hQ
  apply List.find?_eq_none.2
  intro Q hQ
  simpa using h3 Q hQ

/-- over all histories: releasing a handle of a live pool finds its block in `supplied_` (the
swallowed "unknown handle" Error never occurs) and puts it back on the free list of its class -/
theorem Pool.release_returns_block (h : History) (hf : h.Fresh) (ora : Oracle) (name : Nat) (hd : Handle)
    (P : MPool) (hfh : (run h).findHandle name = some hd) (hlive : (run h).findPool hd.pool = some P) :
    ∃ k, (hd.ptr, k) ∈ P.supplied ∧
      ((run h).step ora (.drop name)).1.pools =
        { P with reserved := setClass P.reserved k (hd.ptr :: P.reserved k),
                 supplied := P.supplied.eraseP (·.1 == hd.ptr) } :: (run h).others hd.pool := by
  have hmem := ((WInv.run h hf).handle_perm hfh hlive).subset (List.mem_cons_self ..)
  obtain ⟨P', hfree⟩ := free_of_mem hmem
  obtain ⟨k, hk, rfl⟩ := free_some hfree
  exact ⟨k, hk.symm.subset (List.mem_cons_self ..), by simp [World.step, hfh, hlive, hfree]⟩

/-- over all histories: the ids returned by the `create` calls are strictly increasing, hence
pairwise distinct — an id is never reused (up to the 2^64 wrap of the counter) -/
theorem Pool.ids_never_reused (h : History) : (createdIds (results World.init h)).Pairwise (· < ·) :=
  (createdIds_results h World.init).1

/-- over all histories: live pools have pairwise distinct ids, every id a pool or a handle names is
below the counter, and the next `create` returns the counter -/
theorem Pool.ids_unique (h : History) (hf : h.Fresh) :
    ((run h).pools.map (·.id)).Nodup ∧ (∀ P ∈ (run h).pools, P.id < (run h).nextId) ∧
    (∀ e ∈ (run h).handles, e.2.pool < (run h).nextId) ∧
    ∀ ora m, ((run h).step ora (.create m)).2 = .created (run h).nextId :=
  ⟨(WInv.run h hf).ids, (WInv.run h hf).idlt, (WInv.run h hf).hlt, fun _ _ => rfl⟩

end Primitiv.C18
