import PrimitivModel.Props.C11.Move
/-
C10 — failures are exceptions and change nothing, for the entry points of the
`kernels` family.

* `Guard.<entry>_sound`: for all argument values (shapes well-formed: what the
  library can construct) the modelled entry point never reaches `crash`: a call
  the guard lets through runs a kernel whose every index is in bounds and which
  writes every output element; a call it does not let through is an `error`.
* `Fail.<entry>`: every `error` outcome is produced by the device checks or by
  the shape-level front-end (`Move.Front.<entry>`, a function of the shapes and
  the integer arguments only), i.e. BEFORE the kernel loop (`runSet` / `runAdd`
  / `selectAdd`) is entered: no element of any tensor has been read or written.
  The model is functional, so "gx unchanged" is literal: an `error` outcome
  carries no tensor, and the accumulator the caller holds is the value it
  passed.  (That the C++ performs these checks before the first `*_impl` call is
  `C08.Move.Front.shared_checks`, decided over the generated table.)
-/
namespace Primitiv.C10.Move
open Primitiv Primitiv.Move Primitiv.MoveShape Primitiv.C11.Move

theorem Guard.pick_fw_sound {α} (x : Tensor α) (hx : WF x.shape) (ids : List Nat) (hlen : ids.length < W) (dim : Nat)
    (raw : Nat → α) : NoCrash (pickFw x ids dim raw) := Api.pick_fw_no_crash x hx ids hlen dim raw
theorem Guard.pick_bw_sound {α} [Add α] (gy gx : Tensor α) (hy : WF gy.shape) (hx : WF gx.shape) (ids : List Nat)
    (hlen : ids.length < W) (dim : Nat) : NoCrash (pickBw gy ids dim gx) := Api.pick_bw_no_crash gy gx hy hx ids hlen dim
theorem Guard.slice_fw_sound {α} (x : Tensor α) (hx : WF x.shape) (dim lower upper : Nat) (raw : Nat → α) :
    NoCrash (sliceFw x dim lower upper raw) := Api.slice_fw_no_crash x hx dim lower upper raw
/-- the repaired guard of `slice_bw` (defect #4): for every `offset`, those near 2^32 included -/
theorem Guard.slice_bw_sound {α} [Add α] (gy gx : Tensor α) (hy : WF gy.shape) (hx : WF gx.shape) (dim offset : Nat)
    (hoff : offset < W) : NoCrash (sliceBw gy dim offset gx) := Api.slice_bw_no_crash gy gx hy hx dim offset
theorem Guard.concat_fw_sound {α} (xs : List (Tensor α)) (hxs : ∀ x ∈ xs, WF x.shape) (dim : Nat) (raw : Nat → α) :
    NoCrash (concatFw xs dim raw) := Api.concat_fw_no_crash xs hxs dim raw
theorem Guard.transpose_fw_sound {α} (x : Tensor α) (hx : WF x.shape) (raw : Nat → α) : NoCrash (transposeFw x raw) :=
  Api.transpose_fw_no_crash x hx raw
theorem Guard.transpose_bw_sound {α} [Add α] (x y gy gx : Tensor α) (hx : WF x.shape) (hy : WF y.shape)
    (hgy : WF gy.shape) (hgx : WF gx.shape) (raw : Nat → α) : NoCrash (transposeBw x y gy gx raw) :=
  Api.transpose_bw_no_crash x y gy gx hx hy hgy hgx raw
theorem Guard.permute_dims_fw_sound {α} (x : Tensor α) (hx : WF x.shape) (perm : List Nat) (raw : Nat → α) :
    NoCrash (permuteFw x perm raw) := Api.permute_dims_fw_no_crash x hx perm raw
theorem Guard.permute_dims_bw_sound {α} [Add α] (x y gy gx : Tensor α) (hx : WF x.shape) (hy : WF y.shape)
    (hgy : WF gy.shape) (hgx : WF gx.shape) (perm : List Nat) : NoCrash (permuteBw x y gy perm gx) :=
  Api.permute_dims_bw_no_crash x y gy gx hx hy hgy hgx perm
theorem Guard.flip_fw_sound {α} (x : Tensor α) (hx : WF x.shape) (dim : Nat) (raw : Nat → α) : NoCrash (flipFw x dim raw) :=
  Api.flip_fw_no_crash x hx dim raw
theorem Guard.flip_bw_sound {α} [Add α] (gy gx : Tensor α) (hy : WF gy.shape) (hx : WF gx.shape) (dim : Nat) :
    NoCrash (flipBw gy dim gx) := Api.flip_bw_no_crash gy gx hy hx dim
theorem Guard.sum_fw_sound {α} [Add α] [Zero α] (x : Tensor α) (hx : WF x.shape) (dim : Nat) : NoCrash (sumFw x dim) :=
  Api.sum_fw_no_crash x hx dim
theorem Guard.max_fw_sound {α} [LT α] [DecidableLT α] (x : Tensor α) (hx : WF x.shape) (dim : Nat) : NoCrash (maxFw x dim) :=
  Api.max_fw_no_crash x hx dim
theorem Guard.min_fw_sound {α} [LT α] [DecidableLT α] (x : Tensor α) (hx : WF x.shape) (dim : Nat) : NoCrash (minFw x dim) :=
  Api.min_fw_no_crash x hx dim
theorem Guard.max_bw_sound {α} [Add α] [DecidableEq α] (x y gy gx : Tensor α) (hx : WF x.shape) (hy : WF y.shape)
    (hgy : WF gy.shape) (hgx : WF gx.shape) (dim : Nat) : NoCrash (maxBw x y gy dim gx) :=
  Api.max_bw_no_crash x y gy gx hx hy hgy hgx dim
theorem Guard.min_bw_sound {α} [Add α] [DecidableEq α] (x y gy gx : Tensor α) (hx : WF x.shape) (hy : WF y.shape)
    (hgy : WF gy.shape) (hgx : WF gx.shape) (dim : Nat) : NoCrash (minBw x y gy dim gx) :=
  Api.min_bw_no_crash x y gy gx hx hy hgy hgx dim
theorem Guard.broadcast_fw_sound {α} (x : Tensor α) (hx : WF x.shape) (dim size : Nat) (raw : Nat → α) :
    NoCrash (broadcastFw x dim size raw) := Api.broadcast_fw_no_crash x hx dim size raw
/-- argmax / argmin have no guard and need none -/
theorem Guard.argmax_sound {α} [LT α] [DecidableLT α] (x : Tensor α) (hx : WF x.shape) (dim : Nat) : NoCrash (argmax x dim) :=
  Api.argmax_no_crash x hx dim
theorem Guard.argmin_sound {α} [LT α] [DecidableLT α] (x : Tensor α) (hx : WF x.shape) (dim : Nat) : NoCrash (argmin x dim) :=
  Api.argmin_no_crash x hx dim
theorem Guard.batch_pick_fw_sound {α} (x : Tensor α) (hx : WF x.shape) (ids : List Nat) (hlen : ids.length < W)
    (raw : Nat → α) : NoCrash (batchPickFw x ids raw) := Api.batch_pick_fw_no_crash x hx ids hlen raw
theorem Guard.batch_pick_bw_sound {α} [Add α] (gy gx : Tensor α) (hy : WF gy.shape) (hx : WF gx.shape) (ids : List Nat)
    (hlen : ids.length < W) : NoCrash (batchPickBw gy ids gx) := Api.batch_pick_bw_no_crash gy gx hy hx ids hlen
theorem Guard.batch_slice_fw_sound {α} (x : Tensor α) (hx : WF x.shape) (lower upper : Nat) (raw : Nat → α) :
    NoCrash (batchSliceFw x lower upper raw) := Api.batch_slice_fw_no_crash x hx lower upper raw
/-- the repaired guard of `batch_slice_bw` (defect #4) -/
theorem Guard.batch_slice_bw_sound {α} [Add α] (gy gx : Tensor α) (hy : WF gy.shape) (hx : WF gx.shape) (offset : Nat)
    (hoff : offset < W) : NoCrash (batchSliceBw gy offset gx) := Api.batch_slice_bw_no_crash gy gx hy hx offset
theorem Guard.batch_concat_fw_sound {α} (xs : List (Tensor α)) (hxs : ∀ x ∈ xs, WF x.shape) (raw : Nat → α) :
    NoCrash (batchConcatFw xs raw) := Api.batch_concat_fw_no_crash xs hxs raw
theorem Guard.batch_sum_fw_sound {α} [Add α] [Zero α] (x : Tensor α) (hx : WF x.shape) : NoCrash (batchSumFw x) :=
  Api.batch_sum_fw_no_crash x hx
theorem Guard.copy_sound {α} (x : Tensor α) (raw : Nat → α) : NoCrash (copyTensor x raw) := Api.copy_no_crash x raw
theorem Guard.identity_sound {α} (zero one : α) (size : Nat) : NoCrash (Move.identity zero one size) :=
  Api.identity_no_crash zero one size

/-- On the pinned tree the guard of `slice_bw` was NOT sound (witness: gy = [2],
gx = [4], offset = 0xffffffff). -/
theorem Guard.slice_bw_pinned_unsound :
    ∃ sy sx dim offset p, WF sy ∧ WF sx ∧ offset < W ∧ Front.sliceBwPinned sy sx dim offset = .ok p ∧
      ¬ p.moves.InBounds sy.size sx.size := Kernel.slice_bw_pinned_guard_unsound

/-! Every failure precedes the kernel loop: each entry point is `guarded xs (F >>= k)`, it cannot
crash (`Api.<entry>_no_crash`) and its loop `k` does not throw, so `guarded_fail` applies. -/

theorem Fail.slice_fw {α} {x : Tensor α} {dim lower upper : Nat} {raw : Nat → α} {e : Err} (hx : WF x.shape)
    (h : sliceFw x dim lower upper raw = .error e) :
    e = .error ∧ (x.loc ≠ .here ∨ Front.sliceFw x.shape dim lower upper = .error .error) :=
  guarded_fail (xs := [x]) (Api.slice_fw_no_crash x hx dim lower upper raw) (fun _ => runSet_not_throws) h

theorem Fail.transpose_fw {α} {x : Tensor α} {raw : Nat → α} {e : Err} (hx : WF x.shape)
    (h : transposeFw x raw = .error e) :
    e = .error ∧ (x.loc ≠ .here ∨ Front.transposeFw x.shape = .error .error) :=
  guarded_fail (xs := [x]) (Api.transpose_fw_no_crash x hx raw) (fun _ => runSet_not_throws) h

theorem Fail.permute_dims_fw {α} {x : Tensor α} {perm : List Nat} {raw : Nat → α} {e : Err} (hx : WF x.shape)
    (h : permuteFw x perm raw = .error e) :
    e = .error ∧ (x.loc ≠ .here ∨ Front.permuteFw x.shape perm = .error .error) :=
  guarded_fail (xs := [x]) (Api.permute_dims_fw_no_crash x hx perm raw) (fun _ => runSet_not_throws) h

theorem Fail.broadcast_fw {α} {x : Tensor α} {dim size : Nat} {raw : Nat → α} {e : Err} (hx : WF x.shape)
    (h : broadcastFw x dim size raw = .error e) :
    e = .error ∧ (x.loc ≠ .here ∨ Front.broadcastFw x.shape dim size = .error .error) :=
  guarded_fail (xs := [x]) (Api.broadcast_fw_no_crash x hx dim size raw) (fun _ => runSet_not_throws) h

theorem Fail.batch_slice_fw {α} {x : Tensor α} {lower upper : Nat} {raw : Nat → α} {e : Err} (hx : WF x.shape)
    (h : batchSliceFw x lower upper raw = .error e) :
    e = .error ∧ (x.loc ≠ .here ∨ Front.batchSliceFw x.shape lower upper = .error .error) :=
  guarded_fail (xs := [x]) (Api.batch_slice_fw_no_crash x hx lower upper raw) (fun _ => runSet_not_throws) h

/-- flip_fw has no shape precondition: the only failure is the device check -/
theorem Fail.flip_fw {α} {x : Tensor α} {dim : Nat} {raw : Nat → α} {e : Err} (hx : WF x.shape)
    (h : flipFw x dim raw = .error e) : e = .error ∧ x.loc ≠ .here := by
  have ⟨he, hr⟩ := guarded_fail (xs := [x]) (Api.flip_fw_no_crash x hx dim raw) (fun _ => runSet_not_throws) h
  exact ⟨he, hr.resolve_right nofun⟩

theorem Fail.pick_fw {α} {x : Tensor α} {ids : List Nat} {dim : Nat} {raw : Nat → α} {e : Err} (hx : WF x.shape)
    (hlen : ids.length < W) (h : pickFw x ids dim raw = .error e) :
    e = .error ∧ (x.loc ≠ .here ∨ Front.pickFw x.shape ids dim = .error .error) :=
  guarded_fail (xs := [x]) (Api.pick_fw_no_crash x hx ids hlen dim raw)
    (fun _ => crash_else_not_throws runSet_not_throws) h

theorem Fail.batch_pick_fw {α} {x : Tensor α} {ids : List Nat} {raw : Nat → α} {e : Err} (hx : WF x.shape)
    (hlen : ids.length < W) (h : batchPickFw x ids raw = .error e) :
    e = .error ∧ (x.loc ≠ .here ∨ Front.batchPickFw x.shape ids = .error .error) :=
  guarded_fail (xs := [x]) (Api.batch_pick_fw_no_crash x hx ids hlen raw)
    (fun _ => crash_else_not_throws runSet_not_throws) h

/-- sum_fw, max_fw, min_fw: a failure is a device mismatch or a rejection by `Front.reduceFw` (which rejects `dim ≥ 8`) -/
theorem Fail.sum_fw {α} [Add α] [Zero α] {x : Tensor α} {dim : Nat} {e : Err} (hx : WF x.shape)
    (h : sumFw x dim = .error e) : e = .error ∧ (x.loc ≠ .here ∨ Front.reduceFw x.shape dim = .error .error) :=
  guarded_fail (xs := [x]) (Api.sum_fw_no_crash x hx dim) (fun _ => runReduce_not_throws) h

theorem Fail.max_fw {α} [LT α] [DecidableLT α] {x : Tensor α} {dim : Nat} {e : Err} (hx : WF x.shape)
    (h : maxFw x dim = .error e) : e = .error ∧ (x.loc ≠ .here ∨ Front.reduceFw x.shape dim = .error .error) :=
  guarded_fail (xs := [x]) (Api.max_fw_no_crash x hx dim) (fun _ => runReduce_not_throws) h

theorem Fail.min_fw {α} [LT α] [DecidableLT α] {x : Tensor α} {dim : Nat} {e : Err} (hx : WF x.shape)
    (h : minFw x dim = .error e) : e = .error ∧ (x.loc ≠ .here ∨ Front.reduceFw x.shape dim = .error .error) :=
  guarded_fail (xs := [x]) (Api.min_fw_no_crash x hx dim) (fun _ => runReduce_not_throws) h

/-- argmax fails only on a tensor that is not on the device called (another device's, or invalid) -/
theorem Fail.argmax_only_device {α} [LT α] [DecidableLT α] {x : Tensor α} {dim : Nat} {e : Err} (hx : WF x.shape)
    (h : Move.argmax x dim = .error e) : e = .error ∧ x.loc ≠ .here := by
  have ⟨he, hr⟩ := guarded_error (xs := [x]) (Api.argmax_no_crash x hx dim) h
  exact ⟨he, hr.resolve_right argList_not_throws⟩

theorem Fail.flip_bw {α} [Add α] {gy gx : Tensor α} {dim : Nat} {e : Err} (hy : WF gy.shape) (hx : WF gx.shape)
    (h : flipBw gy dim gx = .error e) :
    e = .error ∧ (gy.loc ≠ .here ∨ gx.loc ≠ .here ∨ Front.flipBw gy.shape gx.shape dim = .error .error) :=
  guarded_fail (xs := [gy, gx]) (Api.flip_bw_no_crash gy gx hy hx dim) (fun _ => runAdd_not_throws) h

theorem Fail.batch_slice_bw {α} [Add α] {gy gx : Tensor α} {offset : Nat} {e : Err} (hy : WF gy.shape) (hx : WF gx.shape)
    (hoff : offset < W) (h : batchSliceBw gy offset gx = .error e) :
    e = .error ∧ (gy.loc ≠ .here ∨ gx.loc ≠ .here ∨ Front.batchSliceBw gy.shape gx.shape offset = .error .error) :=
  guarded_fail (xs := [gy, gx]) (Api.batch_slice_bw_no_crash gy gx hy hx offset) (fun _ => runAdd_not_throws) h

theorem Fail.slice_bw {α} [Add α] {gy gx : Tensor α} {dim offset : Nat} {e : Err} (hy : WF gy.shape) (hx : WF gx.shape)
    (hoff : offset < W) (h : sliceBw gy dim offset gx = .error e) :
    e = .error ∧ (gy.loc ≠ .here ∨ gx.loc ≠ .here ∨ Front.sliceBw gy.shape gx.shape dim offset = .error .error) :=
  guarded_fail (xs := [gy, gx]) (Api.slice_bw_no_crash gy gx hy hx dim offset) (fun _ => runAdd_not_throws) h

theorem Fail.pick_bw {α} [Add α] {gy gx : Tensor α} {ids : List Nat} {dim : Nat} {e : Err} (hy : WF gy.shape)
    (hx : WF gx.shape) (hlen : ids.length < W) (h : pickBw gy ids dim gx = .error e) :
    e = .error ∧ (gy.loc ≠ .here ∨ gx.loc ≠ .here ∨ Front.pickBw gy.shape gx.shape ids dim = .error .error) :=
  guarded_fail (xs := [gy, gx]) (Api.pick_bw_no_crash gy gx hy hx ids hlen dim)
    (fun _ => crash_else_not_throws runAdd_not_throws) h

theorem Fail.batch_pick_bw {α} [Add α] {gy gx : Tensor α} {ids : List Nat} {e : Err} (hy : WF gy.shape)
    (hx : WF gx.shape) (hlen : ids.length < W) (h : batchPickBw gy ids gx = .error e) :
    e = .error ∧ (gy.loc ≠ .here ∨ gx.loc ≠ .here ∨ Front.batchPickBw gy.shape gx.shape ids = .error .error) :=
  guarded_fail (xs := [gy, gx]) (Api.batch_pick_bw_no_crash gy gx hy hx ids hlen)
    (fun _ => crash_else_not_throws runAdd_not_throws) h

theorem Fail.permute_dims_bw {α} [Add α] {x y gy gx : Tensor α} {perm : List Nat} {e : Err} (hx : WF x.shape)
    (hy : WF y.shape) (hgy : WF gy.shape) (hgx : WF gx.shape) (h : permuteBw x y gy perm gx = .error e) :
    e = .error ∧ (x.loc ≠ .here ∨ y.loc ≠ .here ∨ gy.loc ≠ .here ∨ gx.loc ≠ .here ∨
      Front.permuteBw x.shape y.shape gy.shape gx.shape perm = .error .error) :=
  guarded_fail (xs := [x, y, gy, gx]) (Api.permute_dims_bw_no_crash x y gy gx hx hy hgy hgx perm)
    (fun _ => runAdd_not_throws) h

theorem Fail.max_bw {α} [Add α] [DecidableEq α] {x y gy gx : Tensor α} {dim : Nat} {e : Err} (hx : WF x.shape)
    (hy : WF y.shape) (hgy : WF gy.shape) (hgx : WF gx.shape) (h : maxBw x y gy dim gx = .error e) :
    e = .error ∧ (x.loc ≠ .here ∨ y.loc ≠ .here ∨ gy.loc ≠ .here ∨ gx.loc ≠ .here ∨
      Front.maxBw x.shape y.shape gy.shape gx.shape dim = .error .error) :=
  guarded_fail (xs := [x, y, gy, gx]) (Api.max_bw_no_crash x y gy gx hx hy hgy hgx dim)
    (fun _ => crash_else_not_throws nofun) h

theorem Fail.min_bw {α} [Add α] [DecidableEq α] {x y gy gx : Tensor α} {dim : Nat} {e : Err} (hx : WF x.shape)
    (hy : WF y.shape) (hgy : WF gy.shape) (hgx : WF gx.shape) (h : minBw x y gy dim gx = .error e) :
    e = .error ∧ (x.loc ≠ .here ∨ y.loc ≠ .here ∨ gy.loc ≠ .here ∨ gx.loc ≠ .here ∨
      Front.maxBw x.shape y.shape gy.shape gx.shape dim = .error .error) :=
  Fail.max_bw hx hy hgy hgx h

/-- transpose_bw runs `transpose_fw(gy)` after its own shape condition: that
call fails in its front-end, `gy` having passed the device check already -/
theorem Fail.transpose_bw {α} [Add α] {x y gy gx : Tensor α} {raw : Nat → α} {e : Err} (hx : WF x.shape)
    (hy : WF y.shape) (hgy : WF gy.shape) (hgx : WF gx.shape) (h : transposeBw x y gy gx raw = .error e) :
    e = .error ∧ (x.loc ≠ .here ∨ y.loc ≠ .here ∨ gy.loc ≠ .here ∨ gx.loc ≠ .here ∨
      Front.transposeBwGuard x.shape y.shape gy.shape gx.shape = .error .error ∨
      Front.transposeFw gy.shape = .error .error) := by
  have ⟨he, hr⟩ := guarded_error (xs := [x, y, gy, gx]) (Api.transpose_bw_no_crash x y gy gx hx hy hgy hgx raw) h
  refine ⟨he, ?_⟩
  by_cases hl : gy.loc = .here
  · refine elsewhereOr_mono (xs := [x, y, gy, gx]) (fun hK => ?_) hr
    rcases bind_error hK with hG | ⟨_, _, hK⟩
    · exact Or.inl hG
    · rcases bind_error hK with hT | ⟨_, _, hA⟩
      · exact Or.inr ((Fail.transpose_fw hgy hT).2.resolve_left (not_not_intro hl))
      · exact absurd hA runAdd_not_throws
  · exact Or.inr (Or.inr (Or.inl hl))

end Primitiv.C10.Move
