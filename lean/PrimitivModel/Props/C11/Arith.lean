import PrimitivModel.Lemmas.ArithIndex
import PrimitivModel.Props.C01.Arith
import PrimitivModel.Props.C02.Arith
/-
C11 (memory safety), arithmetic kernels: index bounds and writes-all of the loop nests.

For the broadcasting binary / scalar kernels, the in-place updates, matmul, conv2d and max_pool2d of
Model/KernelsArith.lean (there is no such theorem for logsumexp, pown or the flat unary kernels): every
address the loop reads or writes is below the size of the tensor it addresses (`*_in_bounds`), and the
forward kernels write every cell of their raw result (`*_writes_all`: the write addresses of the loop nest are
exactly `0, 1, …, size−1`, in order; hence the result does not depend on the previous content of the buffer,
`*_junk_free`).  The hypotheses are the facts the front-end guard establishes about the dimensions: a batch
stride is 0 for an operand with batch 1 and the full volume for an operand with the result's batch
(`StrideOK`), and a tensor's volume is the product of its dims.
An `example` directly after a theorem shows that its hypotheses can be met.
-/
namespace Primitiv.C11.Arith
open Primitiv Primitiv.Arith Finset
open Primitiv.C01.Arith.Binary (StrideOK addr_lt)

/-- forward: the write addresses `b·size + i` of the loop nest are `0 … bs·size − 1`, each exactly once -/
theorem binary_writes_all (bs size : Nat) :
    (range2 bs size).map (fun t => t.1 * size + t.2) = List.range (bs * size) := range2_addr bs size

/-- forward and backward: an operand (or accumulator) with `Bx` samples and stride `skip ∈ {0, size}` is
addressed inside its `Bx·size` elements -/
theorem binary_in_bounds {skip size bs Bx : Nat} (h : StrideOK skip size bs Bx) :
    ∀ t ∈ range2 bs size, t.1 * skip + t.2 < Bx * size := addr_lt h
example : StrideOK 0 4 3 1 := Or.inl ⟨rfl, le_refl 1⟩

/-- `*src_k` of the scalar kernels: `skip_k = k.has_batch()` -/
theorem scalar_k_in_bounds {skipK bs Bk : Nat} (h : (skipK = 0 ∧ 1 ≤ Bk) ∨ (skipK = 1 ∧ bs ≤ Bk)) :
    ∀ t ∈ range2 bs 1, t.1 * skipK < Bk := by
  intro t ht
  rw [mem_range2] at ht
  rcases h with ⟨rfl, h1⟩ | ⟨rfl, h1⟩ <;> omega

/-- the forward result does not depend on what the raw buffer held -/
theorem binFw_junk_free {α : Type} (op : α → α → α) (size bs skipA skipB : Nat) (a b : Buf α) (j1 j2 : α)
    {n : Nat} (hn : n < bs * size) :
    binFw op size bs skipA skipB a b j1 n = binFw op size bs skipA skipB a b j2 n :=
  writeAt_range2_junk_free bs size _ j1 j2 hn

theorem scalarFw_junk_free {α : Type} (op : α → α → α) (size bs skipX skipK : Nat) (x k : Buf α) (j1 j2 : α)
    {n : Nat} (hn : n < bs * size) :
    scalarFw op size bs skipX skipK x k j1 n = scalarFw op size bs skipX skipK x k j2 n :=
  writeAt_range2_junk_free bs size _ j1 j2 hn

/-- in-place add/subtract: `bs = max(bx, by)`; destination stride 0 or `size`, source stride 0 or `size` -/
theorem inplace_in_bounds {skipD skipS size bs Bd Bs : Nat} (hd : StrideOK skipD size bs Bd) (hs : StrideOK skipS size bs Bs) :
    ∀ t ∈ range2 bs size, t.1 * skipD + t.2 < Bd * size ∧ t.1 * skipS + t.2 < Bs * size :=
  fun t ht => ⟨addr_lt hd t ht, addr_lt hs t ht⟩

namespace Matmul
open Primitiv.C01.Arith.Matmul (InBounds)

/-- every read of `a`, `b`, `gy` and every write of `y`, `ga`, `gb` is inside its tensor
(`a`: `d2·d1` elements per sample, `b`: `d3·d2`, `y`: `d3·d1`) -/
theorem in_bounds (D : MatDims) (Ba Bb : Nat)
    (ha : StrideOK D.skipA (D.d2 * D.d1) D.bs Ba) (hb : StrideOK D.skipB (D.d3 * D.d2) D.bs Bb) :
    InBounds D (Ba * (D.d2 * D.d1)) (Bb * (D.d3 * D.d2)) := by
  intro t ht
  obtain ⟨h1, h2, h3, h4⟩ := mem_matIts.mp ht
  exact ⟨bcast_idx_lt h1 (idx_lt h4 h3) ha, bcast_idx_lt h1 (idx_lt h2 h4) hb, idx_lt h1 (idx_lt h2 h3)⟩
example : StrideOK 6 (3 * 2) 4 4 := Or.inr ⟨rfl, le_refl 4⟩

/-- no cell of the result keeps the raw content `junk`.  In the model this holds by construction: `matmulFw`
starts its scatter-add from `zero` in every cell below `bs·(d3·d1)` (the zero-fill of the code) and reads
`junk` only beyond, so the proof is `if_pos`; that the zero-fill covers the result is assumed with the model. -/
theorem writes_all {α : Type} [Add α] [Mul α] (zero : α) (D : MatDims) (a b : Buf α) (j1 j2 : α) {n : Nat}
    (hn : n < D.bs * (D.d3 * D.d1)) : matmulFw zero D a b j1 n = matmulFw zero D a b j2 n := by
  unfold matmulFw
  rw [if_pos hn, if_pos hn]

end Matmul

namespace Conv2d
open Primitiv.C01.Arith.Conv2d (InBounds)

theorem mem_its {D : ConvDims} {t : ConvIt} (ht : t ∈ D.its) :
    t.bn < D.bs ∧ t.yc < D.yc ∧ t.yx < D.yw ∧ t.yy < D.yh ∧ t.xc < D.xc ∧ t.wx < D.ww ∧ t.wy < D.wh ∧
      D.valid t = true := by
  unfold ConvDims.its ConvDims.allIts at ht
  obtain ⟨hm, hv⟩ := List.mem_filter.mp ht
  obtain ⟨s, hs, hin⟩ := List.mem_flatMap.mp hm
  obtain ⟨r, hr, rfl⟩ := List.mem_map.mp hin
  obtain ⟨a1, a2, a3, a4⟩ := mem_range4.mp hs
  obtain ⟨b1, b2, b3⟩ := mem_range3.mp hr
  exact ⟨a1, a2, a3, a4, b1, b2, b3, hv⟩

/-- the bounds test of the kernel: the window position is a valid coordinate of x -/
theorem valid_pos {D : ConvDims} {t : ConvIt} (hv : D.valid t = true) :
    (D.posY t).toNat < D.xh ∧ (D.posX t).toNat < D.xw := by
  simp only [ConvDims.valid, Bool.and_eq_true, decide_eq_true_eq] at hv
  omega

/-- every read of `x`, `w`, `gy` and every write of `y`, `gx`, `gw` is inside its tensor, for every padding,
stride, dilation and batch pattern (`x`: `xc·xw·xh` per sample, `w`: `yc·xc·ww·wh`, `y`: `yc·yw·yh`) -/
theorem in_bounds (D : ConvDims) (Bx Bw : Nat)
    (hx : StrideOK D.xShift (D.xc * (D.xw * D.xh)) D.bs Bx)
    (hw : StrideOK D.wShift (D.yc * (D.xc * (D.ww * D.wh))) D.bs Bw)
    (hY : D.yShift = D.yc * (D.yw * D.yh)) :
    InBounds D (Bx * (D.xc * (D.xw * D.xh))) (Bw * (D.yc * (D.xc * (D.ww * D.wh)))) := by
  intro t ht
  obtain ⟨h1, h2, h3, h4, h5, h6, h7, hv⟩ := mem_its ht
  obtain ⟨py, px⟩ := valid_pos hv
  refine ⟨?_, ?_, ?_⟩
  · exact bcast_idx_lt h1 (idx_lt3 h5 px py) hx
  · exact bcast_idx_lt h1 ((idx_lt3 (idx_lt h2 h5) (Nat.sub_one_sub_lt h6) (Nat.sub_one_sub_lt h7)).trans_eq
      (Nat.mul_assoc _ _ _)) hw
  · rw [ConvDims.ya, hY]
    exact idx_lt h1 (idx_lt3 h2 h3 h4)

/-- the four output loops (each iteration of which writes `py[y_addr] = 0` in the code; `D.outer` in the model,
which has no separate zero pass) address every cell of the result exactly once -/
theorem writes_all (D : ConvDims) (hY : D.yShift = D.yc * (D.yw * D.yh)) :
    D.outer.map (C02.Arith.convCell D) = List.range (D.bs * D.yShift) := D.outer_addr hY

end Conv2d

namespace MaxPool

/-- a cell the window scan accepts is a cell of the `xw × xh` plane -/
theorem window_in_bounds (D : PoolDims) (yx yy : Nat) : ∀ a ∈ D.window yx yy, a < D.xw * D.xh := by
  intro a ha
  unfold PoolDims.window at ha
  obtain ⟨wx, _, hin⟩ := List.mem_flatMap.mp ha
  simp only at hin
  split at hin
  · simp at hin
  · next hx =>
    obtain ⟨wy, _, hsome⟩ := List.mem_filterMap.mp hin
    split at hsome
    · simp at hsome
    · next hy =>
      simp only [Option.some.injEq] at hsome
      subst hsome
      apply idx_lt <;> omega

/-- forward and backward: every read of `x` (and every `+=` into `gx`) is inside the `rep` planes -/
theorem reads_in_bounds (D : PoolDims) {t : Nat × Nat × Nat} (ht : t ∈ D.outer) :
    ∀ a ∈ D.window t.2.1 t.2.2, D.xbase t + a < D.rep * (D.xh * D.xw) := by
  intro a ha
  have h := window_in_bounds D _ _ a ha
  have ht' := mem_range3.mp ht
  unfold PoolDims.xbase
  rw [Nat.mul_comm D.xh D.xw]
  exact idx_lt ht'.1 h

theorem bw_write_in_bounds {α : Type} [BEq α] (D : PoolDims) (x y : Buf α) {t : Nat × Nat × Nat} (ht : t ∈ D.outer)
    {n : Nat} (h : firstMatch D x y t = some n) : n < D.rep * (D.xh * D.xw) := by
  unfold firstMatch at h
  cases hf : (D.window t.2.1 t.2.2).find? (fun a => x (D.xbase t + a) == y (D.ya t)) with
  | none => rw [hf] at h; simp at h
  | some a =>
    rw [hf] at h
    simp only [Option.map_some, Option.some.injEq] at h
    subst h
    exact reads_in_bounds D ht a (List.mem_of_find?_eq_some hf)

/-- the three output loops write every cell of the result exactly once, in order -/
theorem writes_all (D : PoolDims) : D.outer.map D.ya = List.range (D.rep * (D.yw * D.yh)) := D.outer_addr

/-- hence the forward result does not depend on the raw buffer's content -/
theorem junk_free {α : Type} [LT α] [DecidableLT α] (lowest : α) (D : PoolDims) (x : Buf α) (j1 j2 : α) {n : Nat}
    (hn : n < D.rep * (D.yw * D.yh)) : maxPoolFw lowest D x j1 n = maxPoolFw lowest D x j2 n := by
  unfold maxPoolFw
  exact writeAt_init_irrelevant _ _ _ _ _ (C02.Arith.pool_outer_nodup D) (D.outer_addr ▸ List.mem_range.mpr hn)

end MaxPool

/-! The front-end guards of device.cc establish the hypotheses used above.

For canonical operand shapes (every Shape the constructor returns is canonical, Props/C09 `new_canonical`) the
shape rule a `Device` entry point evaluates before it calls the kernel (`devBinFw`, `devScalarFw`,
`devMatmulFw`, `devConv2dFw`, `devMaxPoolFw`; the `*_bw` entry points via `guardBwAB`; `guardInplace`) yields
exactly the stride / volume facts the bounds theorems assume, with the tensors' true element counts
`size = batch · volume`. -/
namespace FrontEnd
open Primitiv.Arith.Guard Primitiv.Spec Primitiv.ShapeL

/- Every `*_guard` below reads the facts off the specification's rule, not off the model's: the agreement
lemma of Lemmas/Shape.lean turns `ShapeOps.r … = .ok ys` into `Spec.r … = some (toSpec ys)` and
`ys.Canonical` (`Agree.ok_inv`); each `of_rule` then strips one `if bad then none else …` and hands over
`¬bad`; `of_mk` reads dims and batch of `ys` off the final `Spec.mk`. -/

/-- compatible batch sizes: with the result's batch `max a.batch b.batch`, each operand has stride 0 (batch 1)
or the full stride.  `h` has the shape `not_or.mp` leaves of the negated guard of the specification's rule. -/
theorem stride_of_compat {a b : Shape} (ha : a.Canonical) (hb : b.Canonical) {bs : Nat}
    (hbs : bs = max a.batch b.batch) (h : ¬(!a.hasCompatibleBatch b) = true) (sa sb : Nat) :
    StrideOK (skipOf a sa) sa bs a.batch ∧ StrideOK (skipOf b sb) sb bs b.batch := by
  have h : a.hasCompatibleBatch b = true := by simpa using h
  obtain ⟨h1, h2⟩ := compat_max ha.batch_ne hb.batch_ne h
  rw [← hbs] at h1 h2
  exact ⟨skipOf_ok ha sa bs h1, skipOf_ok hb sb bs h2⟩

/-- shape_ops::elementwise (add, subtract, multiply, divide, pow — forward, and backward via `guardBwAB`) -/
theorem elementwise_guard {a b ys : Shape} (ha : a.Canonical) (hb : b.Canonical)
    (h : ShapeOps.elementwise a b = .ok ys) :
    ys.Canonical ∧ ys.volume = a.volume ∧ b.volume = a.volume ∧
      StrideOK (skipOf a ys.volume) ys.volume ys.batch a.batch ∧
      StrideOK (skipOf b ys.volume) ys.volume ys.batch b.batch := by
  obtain ⟨ht, hc⟩ := Agree.ok_inv (h ▸ ShapeOps.elementwise_agree ha b)
  obtain ⟨hneg, ht⟩ := of_rule ht
  obtain ⟨hd, hbt⟩ := of_mk ht
  obtain ⟨hdims, hcompat⟩ := not_or.mp hneg
  have hdims : a.dims = b.dims := not_not.mp hdims
  have hvb : b.volume = a.volume := by rw [hb.vol, ha.vol, hdims]
  exact ⟨hc, vol_of_same_dims ha hc hd, hvb, stride_of_compat ha hb hbt hcompat _ _⟩
example : (⟨[2, 3], 5, 6⟩ : Shape).Canonical := by decide

/-- every address of a broadcasting binary kernel is below the element count of the tensor it addresses -/
theorem devBin_in_bounds {a b ys : Shape} (ha : a.Canonical) (hb : b.Canonical)
    (h : ShapeOps.elementwise a b = .ok ys) :
    ∀ t ∈ range2 ys.batch ys.volume,
      t.1 * skipOf a ys.volume + t.2 < a.size ∧ t.1 * skipOf b ys.volume + t.2 < b.size ∧
        t.1 * ys.volume + t.2 < ys.size := by
  obtain ⟨hc, hv, hvb, sa, sb⟩ := elementwise_guard ha hb h
  intro t ht
  rw [ha.size_eq, hb.size_eq, hc.size_eq, ← hv, hvb, ← hv]
  exact ⟨addr_lt sa t ht, addr_lt sb t ht, idx_lt (mem_range2.mp ht).1 (mem_range2.mp ht).2⟩

/-- shape_ops::scalar_op (the eight `*_scalar_*` kernels): `k` is a scalar, read at `b · has_batch` -/
theorem scalarOp_guard {x k ys : Shape} (hx : x.Canonical) (hk : k.Canonical)
    (h : ShapeOps.scalarOp x k = .ok ys) :
    ys.Canonical ∧ ys.volume = x.volume ∧ k.volume = 1 ∧
      StrideOK (skipOf x ys.volume) ys.volume ys.batch x.batch ∧ StrideOK (skipOf k 1) 1 ys.batch k.batch := by
  obtain ⟨ht, hc⟩ := Agree.ok_inv (h ▸ ShapeOps.scalarOp_agree hx k)
  obtain ⟨hneg, ht⟩ := of_rule ht
  obtain ⟨hd, hbt⟩ := of_mk ht
  obtain ⟨hdepth, hcompat⟩ := not_or.mp hneg
  exact ⟨hc, vol_of_same_dims hx hc hd, canon_vol0 hk (not_not.mp hdepth), stride_of_compat hx hk hbt hcompat _ _⟩

/-- shape_ops::matmul -/
theorem matmul_guard {a b ys : Shape} (ha : a.Canonical) (hb : b.Canonical) (h : ShapeOps.matmul a b = .ok ys) :
    let D := matDims a b ys
    ys.Canonical ∧ StrideOK D.skipA (D.d2 * D.d1) D.bs a.batch ∧ StrideOK D.skipB (D.d3 * D.d2) D.bs b.batch ∧
      a.volume = D.d2 * D.d1 ∧ b.volume = D.d3 * D.d2 ∧ ys.volume = D.d3 * D.d1 := by
  obtain ⟨ht, hc⟩ := Agree.ok_inv (h ▸ ShapeOps.matmul_agree a b)
  obtain ⟨hneg, ht⟩ := of_rule ht
  obtain ⟨hd, hbt⟩ := of_mk ht
  simp only [not_or, Nat.not_lt] at hneg
  obtain ⟨hda, hdb, hmid, hcompat⟩ := hneg
  have hmid : a.get 1 = b.get 0 := not_not.mp hmid
  have hvy : ys.volume = b.get 1 * a.get 0 := by
    rw [canon_vol2 hc (length_of_trim hd), get_of_trim hd 0, get_of_trim hd 1]; rfl
  obtain ⟨sa, sb⟩ := stride_of_compat ha hb hbt hcompat (a.get 1 * a.get 0) (b.get 1 * a.get 1)
  refine ⟨hc, ?_, ?_, canon_vol2 ha hda, (canon_vol2 hb hdb).trans (hmid ▸ rfl), hvy⟩
  · show StrideOK (skipOf a (a.get 0 * a.get 1)) _ _ _
    rw [Nat.mul_comm (a.get 0)]
    exact sa
  · show StrideOK (skipOf b (a.get 1 * b.get 1)) _ _ _
    rw [Nat.mul_comm (a.get 1)]
    exact sb

/-- Device::matmul_fw / matmul_bw: the loop nest stays inside the three tensors -/
theorem devMatmul_in_bounds {a b ys : Shape} (ha : a.Canonical) (hb : b.Canonical)
    (h : ShapeOps.matmul a b = .ok ys) :
    C01.Arith.Matmul.InBounds (matDims a b ys) a.size b.size ∧
      (matDims a b ys).bs * ((matDims a b ys).d3 * (matDims a b ys).d1) = ys.size := by
  obtain ⟨hc, sa, sb, hva, hvb, hvy⟩ := matmul_guard ha hb h
  rw [ha.size_eq, hb.size_eq, hc.size_eq, hva, hvb, hvy]
  exact ⟨Matmul.in_bounds _ _ _ sa sb, rfl⟩

/-- shape_ops::conv2d -/
theorem conv2d_guard {x w ys : Shape} (hx : x.Canonical) (hw : w.Canonical) (p0 p1 s0 s1 d0 d1 : Nat)
    (h : ShapeOps.conv2d x w p0 p1 s0 s1 d0 d1 = .ok ys) :
    let D := convDims x w ys p0 p1 s0 s1 d0 d1
    ys.Canonical ∧ StrideOK D.xShift (D.xc * (D.xw * D.xh)) D.bs x.batch ∧
      StrideOK D.wShift (D.yc * (D.xc * (D.ww * D.wh))) D.bs w.batch ∧ D.yShift = D.yc * (D.yw * D.yh) ∧
      x.volume = D.xc * (D.xw * D.xh) ∧ w.volume = D.yc * (D.xc * (D.ww * D.wh)) := by
  obtain ⟨ht, hc⟩ := Agree.ok_inv (h ▸ ShapeOps.conv2d_agree x w p0 p1 s0 s1 d0 d1)
  obtain ⟨hneg, ht⟩ := of_rule ht
  obtain ⟨_, ht⟩ := of_rule ht
  obtain ⟨hd, hbt⟩ := of_mk ht
  simp only [not_or, Nat.not_lt] at hneg
  obtain ⟨hdx, hdw, _, _, hch, hcompat, _⟩ := hneg
  have hch : x.get 2 = w.get 2 := not_not.mp hch
  have hvx : x.volume = x.get 2 * (x.get 1 * x.get 0) := canon_vol3 hx hdx
  have hvw : w.volume = ys.get 2 * (x.get 2 * (w.get 1 * w.get 0)) := by
    rw [canon_vol4 hw hdw, get_of_trim hd 2, hch]; rfl
  obtain ⟨sx, sw⟩ := stride_of_compat hx hw hbt hcompat x.volume w.volume
  exact ⟨hc, hvx ▸ sx, hvw ▸ sw, canon_vol3 hc (length_of_trim hd), hvx, hvw⟩

/-- Device::conv2d_fw / conv2d_bw: every read and write of the seven-level nest is inside its tensor and the
zero-writes cover the result -/
theorem devConv2d_in_bounds {x w ys : Shape} (hx : x.Canonical) (hw : w.Canonical) (p0 p1 s0 s1 d0 d1 : Nat)
    (h : ShapeOps.conv2d x w p0 p1 s0 s1 d0 d1 = .ok ys) :
    C01.Arith.Conv2d.InBounds (convDims x w ys p0 p1 s0 s1 d0 d1) x.size w.size ∧
      (convDims x w ys p0 p1 s0 s1 d0 d1).outer.map (C02.Arith.convCell (convDims x w ys p0 p1 s0 s1 d0 d1))
        = List.range ys.size := by
  obtain ⟨hc, sx, sw, hY, hvx, hvw⟩ := conv2d_guard hx hw p0 p1 s0 s1 d0 d1 h
  rw [hx.size_eq, hw.size_eq, hc.size_eq, hvx, hvw]
  exact ⟨Conv2d.in_bounds _ _ _ sx sw hY, Conv2d.writes_all _ hY⟩

/-- shape_ops::pool2d: `repeat = x.size() / (x_height · x_width)` planes on both sides -/
theorem pool2d_guard {x ys : Shape} (hx : x.Canonical) (w0 w1 p0 p1 s0 s1 : Nat)
    (h : ShapeOps.pool2d x w0 w1 p0 p1 s0 s1 = .ok ys) :
    let D := poolDims x ys w0 w1 p0 p1 s0 s1
    ys.Canonical ∧ D.rep * (D.xh * D.xw) = x.size ∧ D.rep * (D.yw * D.yh) = ys.size := by
  obtain ⟨ht, hc⟩ := Agree.ok_inv (h ▸ ShapeOps.pool2d_agree x w0 w1 p0 p1 s0 s1)
  obtain ⟨hneg, ht⟩ := of_rule ht
  obtain ⟨_, ht⟩ := of_rule ht
  obtain ⟨hd, hbt⟩ := of_mk ht
  have hdx : x.dims.length ≤ 3 := Nat.not_lt.mp (not_or.mp hneg).1
  -- `x` has `batch · channels` planes of `x_height · x_width` cells, `y` as many of `y_height · y_width`
  have hsx : x.size = x.batch * x.get 2 * (x.get 0 * x.get 1) := by
    rw [hx.size_eq, canon_vol3 hx hdx]; ring
  have hsy : ys.size = x.batch * x.get 2 * (ys.get 1 * ys.get 0) := by
    rw [hc.size_eq, canon_vol3 hc (length_of_trim hd), get_of_trim hd 2, hbt, Nat.mul_assoc]; rfl
  have hrep : x.size / (x.get 0 * x.get 1) = x.batch * x.get 2 := by
    rw [hsx, Nat.mul_div_cancel _ (Nat.mul_pos (hx.get_pos 0) (hx.get_pos 1))]
  exact ⟨hc, (congrArg (· * (x.get 0 * x.get 1)) hrep).trans hsx.symm,
    (congrArg (· * (ys.get 1 * ys.get 0)) hrep).trans hsy.symm⟩

/-- Device::max_pool2d_fw / max_pool2d_bw: reads of `x` (writes of `gx`) inside x, the result fully written -/
theorem devMaxPool_in_bounds {x ys : Shape} (hx : x.Canonical) (w0 w1 p0 p1 s0 s1 : Nat)
    (h : ShapeOps.pool2d x w0 w1 p0 p1 s0 s1 = .ok ys) :
    (∀ t ∈ (poolDims x ys w0 w1 p0 p1 s0 s1).outer, ∀ a ∈ (poolDims x ys w0 w1 p0 p1 s0 s1).window t.2.1 t.2.2,
        (poolDims x ys w0 w1 p0 p1 s0 s1).xbase t + a < x.size) ∧
      (poolDims x ys w0 w1 p0 p1 s0 s1).outer.map (poolDims x ys w0 w1 p0 p1 s0 s1).ya = List.range ys.size := by
  obtain ⟨_, h1, h2⟩ := pool2d_guard hx w0 w1 p0 p1 s0 s1 h
  rw [← h1, ← h2]
  exact ⟨fun t ht a ha => MaxPool.reads_in_bounds _ ht a ha, MaxPool.writes_all _⟩

/-- the guard of every binary `*_bw` entry point (DEV_BW_AB, conv2d_bw): the accumulators and `gy` have the
shapes of the operands and of the forward result, so the facts above hold for them as well -/
theorem guardBwAB_ok {sop : Shape → Shape → R Shape} {a b y gy ga gb : Shape}
    (h : guardBwAB sop a b y gy ga gb = .ok ()) :
    a.eq ga = true ∧ b.eq gb = true ∧ y.eq gy = true ∧ ∃ ys, sop a b = .ok ys ∧ y.eq ys = true := by
  unfold guardBwAB at h
  by_cases h1 : (!a.eq ga || !b.eq gb || !y.eq gy) = true
  · simp [h1, Primitiv.throwError, bind, Except.bind] at h
  · simp only [h1] at h
    simp only [Bool.or_eq_true, Bool.not_eq_true', not_or, Bool.not_eq_false] at h1
    obtain ⟨⟨ha, hb⟩, hy⟩ := h1
    cases hs : sop a b with
    | error e => simp [hs, bind, Except.bind] at h
    | ok ys =>
      refine ⟨ha, hb, hy, ys, rfl, ?_⟩
      by_cases h2 : (!y.eq ys) = true
      · simp [hs, h2, Primitiv.throwError, bind, Except.bind] at h
      · simpa using h2

/-- Device::inplace_add / inplace_subtract -/
theorem inplace_guard {sx sy : Shape} (hx : sx.Canonical) (hy : sy.Canonical) (h : guardInplace sx sy = true) :
    sx.volume = sy.volume ∧
      StrideOK (skipOf sy sy.volume) sy.volume (max sx.batch sy.batch) sy.batch ∧
      StrideOK (skipOf sx sy.volume) sy.volume (max sx.batch sy.batch) sx.batch := by
  unfold guardInplace at h
  rw [Bool.and_eq_true, hasSameDims_iff] at h
  obtain ⟨ssx, ssy⟩ := stride_of_compat hx hy rfl (by simp [h.2]) sy.volume sy.volume
  exact ⟨by rw [hx.vol, hy.vol, h.1], ssy, ssx⟩

end FrontEnd

end Primitiv.C11.Arith
