import PrimitivModel.Lemmas.MoveEntry
import PrimitivModel.Lemmas.MovePermute
/-
C11 — memory safety of the kernels of the `kernels` family, as far as it is
index arithmetic: under the front-end guard of each public entry point
(`Move.Front.<k> … = .ok …`), every index the kernel reads is below the size of
the tensor read, every index it writes is below the size of the tensor written
(`Moves.InBounds src dst` / `Reduce.InBounds src`), and a forward kernel writes
every element of its raw (uninitialised) output tensor (`Moves.WritesAll`).
Shapes are arbitrary well-formed shapes (`MoveShape.WF`: what the `Shape`
constructor yields, `MoveShape.new_ok`, and every shape rule preserves): depth
0..8, size-1 axes anywhere, any batch combination the guard admits, any axis
argument.  `ids.length < W`: the vector of ids fits in memory.
The `Api.<entry>_no_crash` theorems put these bounds together with the
front-ends; C10's `Guard.<entry>_sound` are the same statements.
-/
namespace Primitiv.C11.Move
open Primitiv Primitiv.Move Primitiv.Move.Front Primitiv.MoveShape

theorem Kernel.slice_fw_in_bounds {x ys : Shape} {dim lower upper : Nat} {m : Moves} (hx : WF x)
    (h : Front.sliceFw x dim lower upper = .ok (ys, m)) : m.InBounds x.size ys.size := by
  have ⟨hl, hu, hy, _, _, hm, hxs, hys⟩ := sliceFw_plan hx h
  rw [hm, hxs, hys]
  exact sliceFw_bounds (by omega)

theorem Kernel.slice_fw_writes_all {x ys : Shape} {dim lower upper : Nat} {m : Moves} (hx : WF x)
    (h : Front.sliceFw x dim lower upper = .ok (ys, m)) : m.WritesAll ys.size ∧ m.WritesOnce := by
  have ⟨_, _, _, _, _, hm, _, hys⟩ := sliceFw_plan hx h
  rw [hm, hys]
  exact writesAll_of_id (fun _ => rfl) (Nat.mul_comm _ _)

example : Front.sliceFw ⟨[3, 2], 2, 6⟩ 1 1 2 = .ok (⟨[3], 2, 3⟩, sliceFwMoves 3 3 6 2 1) := by rfl

theorem Kernel.slice_bw_in_bounds {sy sx : Shape} {dim offset : Nat} {p : SliceBwPlan} (hy : WF sy) (hx : WF sx)
    (h : Front.sliceBw sy sx dim offset = .ok p) : p.moves.InBounds sy.size sx.size := by
  have ⟨_, hcomp, hg, hxs, hys, hp⟩ := sliceBw_plan hy hx h
  have hfit : lo sx dim * sx.get dim * up sx dim * sx.batch < W := by
    rw [← (hx.toView dim).volume]; exact hx.fits
  rcases hp with ⟨_, hy1, hx1, _, rfl⟩ | ⟨_, rfl⟩
  · rw [hxs, hys, hy1, hx1]
    simp only [Nat.mul_one, SliceBwPlan.moves]
    exact inplaceAdd_bounds hx.bpos hy.bpos hcomp
  · rw [hxs, hys]
    exact sliceBw_bounds hg (up_pos hx dim) hx.bpos hy.bpos hcomp hfit

/-- The guard of the pinned tree (`offset + sy[dim] > sx[dim]` with a 32-bit
sum) does not protect the kernel: `slice_bw(gy = [2], 0, 0xffffffff, gx = [4])`
passes it and the first write index is far outside `gx`.  (Defect #4 of
DESIGN.md section 4; repaired by patches/fix-slice-bw-wrap.diff.) -/
theorem Kernel.slice_bw_pinned_guard_unsound :
    ∃ sy sx dim offset p, WF sy ∧ WF sx ∧ offset < W ∧ Front.sliceBwPinned sy sx dim offset = .ok p ∧
      ¬ p.moves.InBounds sy.size sx.size := by
  refine ⟨⟨[2], 1, 2⟩, ⟨[4], 1, 4⟩, 0, 4294967295, .kernel (sliceBwMoves 1 2 4 1 1 0 0 4294967295), ?_, ?_, by decide, by rfl, ?_⟩
  · exact (new_ok (dims := [2]) (b := 1) (by decide)).1
  · exact (new_ok (dims := [4]) (b := 1) (by decide)).1
  · intro hb
    have := (hb 0 (by decide)).2
    revert this; decide

theorem Kernel.batch_slice_bw_pinned_guard_unsound :
    ∃ sy sx offset m, WF sy ∧ WF sx ∧ offset < W ∧ Front.batchSliceBwPinned sy sx offset = .ok m ∧
      ¬ m.InBounds sy.size sx.size := by
  refine ⟨⟨[], 2, 1⟩, ⟨[], 4, 1⟩, 4294967295, batchSliceBwMoves 1 2 4294967295, ?_, ?_, by decide, by rfl, ?_⟩
  · exact (new_ok (dims := []) (b := 2) (by decide)).1
  · exact (new_ok (dims := []) (b := 4) (by decide)).1
  · intro hb
    have := (hb 0 (by decide)).2
    revert this; decide

example : Front.sliceBw ⟨[2], 1, 2⟩ ⟨[4], 1, 4⟩ 0 2 = .ok (.kernel (sliceBwMoves 1 2 4 1 1 0 0 2)) := by rfl
example : Front.sliceBw ⟨[2], 1, 2⟩ ⟨[4], 1, 4⟩ 0 4294967295 = .error .error := by rfl
example : Front.sliceBw ⟨[2], 1, 2⟩ ⟨[4], 1, 4⟩ 0 3 = .error .error := by rfl

theorem Kernel.pick_fw_in_bounds {x ys : Shape} {ids : List Nat} {dim : Nat} {m : Moves} (hx : WF x)
    (hlen : ids.length < W) (h : Front.pickFw x ids dim = .ok (ys, m)) :
    m.InBounds x.size ys.size ∧ Front.pickIdsOk ys.batch ids = true := by
  have ⟨_, hpos, hcomp, hids, _, hb, _, hm, hxs, hys⟩ := pickFw_plan hx hlen h
  rw [hm, hxs, hys, hb]
  exact ⟨pick_bounds hx.bpos hpos hcomp hids, pickIdsOk_max hpos hcomp hids⟩

theorem Kernel.pick_fw_writes_all {x ys : Shape} {ids : List Nat} {dim : Nat} {m : Moves} (hx : WF x)
    (hlen : ids.length < W) (h : Front.pickFw x ids dim = .ok (ys, m)) : m.WritesAll ys.size ∧ m.WritesOnce := by
  have ⟨_, _, _, _, _, _, _, hm, _, hys⟩ := pickFw_plan hx hlen h
  rw [hm, hys]
  exact writesAll_of_id (fun _ => rfl) (pick_count _ _ _ _ _ _ _)

theorem Kernel.pick_bw_in_bounds {gy gx : Shape} {ids : List Nat} {dim : Nat} {m : Moves} (hy : WF gy) (hx : WF gx)
    (hlen : ids.length < W) (h : Front.pickBw gy gx ids dim = .ok m) :
    m.InBounds gy.size gx.size ∧ Front.pickIdsOk gy.batch ids = true := by
  have ⟨_, hpos, hcomp, hids, hb, _, hm, hxs, hys⟩ := pickBw_plan hy hx hlen h
  rw [hm, hxs, hys, hb]
  exact ⟨Moves.swap_inBounds (pick_bounds hx.bpos hpos hcomp hids),
    pickIdsOk_max hpos hcomp hids⟩

example : Front.pickFw ⟨[3, 3], 1, 9⟩ [1, 2] 1 = .ok (⟨[3], 2, 3⟩, pickMoves 2 0 1 3 9 1 [1, 2]) := by rfl
example : Front.pickBw ⟨[3], 2, 3⟩ ⟨[3, 3], 1, 9⟩ [1, 2] 1 = .ok (pickMoves 2 0 1 3 9 1 [1, 2]).swap := by rfl

theorem Kernel.flip_fw_in_bounds {x ys : Shape} {dim : Nat} {m : Moves} (hx : WF x)
    (h : Front.flipFw x dim = .ok (ys, m)) : m.InBounds x.size ys.size := by
  have ⟨rfl, hm, hxs⟩ := flipFw_plan hx h
  rw [hm, hxs]
  exact flip_bounds

theorem Kernel.flip_fw_writes_all {x ys : Shape} {dim : Nat} {m : Moves} (hx : WF x)
    (h : Front.flipFw x dim = .ok (ys, m)) : m.WritesAll ys.size ∧ m.WritesOnce := by
  have ⟨rfl, hm, hxs⟩ := flipFw_plan hx h
  rw [hm, hxs]
  exact flip_writes

theorem Kernel.flip_bw_in_bounds {gy gx : Shape} {dim : Nat} {m : Moves} (hy : WF gy) (hx : WF gx)
    (h : Front.flipBw gy gx dim = .ok m) : m.InBounds gy.size gx.size := by
  have ⟨_, hs, hm, hxs⟩ := flipBw_plan hy hx h
  rw [hm, hs, hxs]
  exact flip_bounds

/-- sum_fw, max_fw, min_fw: reads in bounds, and exactly the elements of the
output are written (`dest[i]`, `i < repeat = y.size`). -/
theorem Kernel.reduce_fw_in_bounds {x ys : Shape} {dim : Nat} {r : Reduce} (hx : WF x)
    (h : Front.reduceFw x dim = .ok (ys, r)) : r.InBounds x.size ∧ r.rep = ys.size ∧ 0 < r.n := by
  have ⟨_, _, _, _, hr, hxs, hys⟩ := reduceFw_plan hx h
  rw [hr, hxs, hys]
  exact ⟨axisReduce_bounds (lo_pos hx dim), rfl, hx.pos dim⟩

theorem Kernel.max_bw_in_bounds {x y gy gx : Shape} {dim : Nat} {r : Reduce} (hx : WF x) (hy : WF y) (hgy : WF gy)
    (hgx : WF gx) (h : Front.maxBw x y gy gx dim = .ok r) :
    r.InBounds x.size ∧ r.InBounds gx.size ∧ r.rep = y.size ∧ r.rep = gy.size := by
  have ⟨_, _, _, hr, hxs, hgxs, hys, hgys⟩ := maxBw_plan hx hy hgy hgx h
  rw [hgxs, hgys, hr, hxs, hys]
  exact ⟨axisReduce_bounds (lo_pos hx dim), axisReduce_bounds (lo_pos hx dim), rfl, rfl⟩

/-- argmax / argmin have no front-end guard at all, for any axis argument -/
theorem Kernel.argmax_in_bounds {x : Shape} (hx : WF x) (dim : Nat) :
    (Front.argReduce x dim).InBounds x.size ∧ 0 < (Front.argReduce x dim).n := by
  have ⟨hr, hxs⟩ := argReduce_plan hx dim
  rw [hr, hxs]
  exact ⟨axisReduce_bounds (lo_pos hx dim), hx.pos dim⟩

theorem Kernel.broadcast_fw_in_bounds {x ys : Shape} {dim size : Nat} {m : Moves} (hx : WF x)
    (h : Front.broadcastFw x dim size = .ok (ys, m)) : m.InBounds x.size ys.size := by
  have ⟨_, _, _, _, _, _, hm, hxs, hys⟩ := broadcastFw_plan hx h
  rw [hm, hxs, hys]
  exact broadcast_bounds

theorem Kernel.broadcast_fw_writes_all {x ys : Shape} {dim size : Nat} {m : Moves} (hx : WF x)
    (h : Front.broadcastFw x dim size = .ok (ys, m)) : m.WritesAll ys.size ∧ m.WritesOnce := by
  have ⟨_, _, _, _, _, _, hm, _, hys⟩ := broadcastFw_plan hx h
  rw [hm, hys]
  exact broadcast_writes

example : Front.reduceFw ⟨[3, 2], 2, 6⟩ 0 = .ok (⟨[1, 2], 2, 2⟩, axisReduce 4 3 1) := by rfl
example : Front.reduceFw ⟨[3, 2], 2, 6⟩ 8 = .error .error := by rfl
example : Front.broadcastFw ⟨[3], 2, 3⟩ 1 2 = .ok (⟨[3, 2], 2, 6⟩, broadcastMoves 6 3 2) := by rfl

theorem Kernel.transpose_fw_in_bounds {x ys : Shape} {m : Moves} (hx : WF x)
    (h : Front.transposeFw x = .ok (ys, m)) : m.InBounds x.size ys.size := by
  have ⟨_, _, _, _, _, _, hm, hxs, hys⟩ := transposeFw_plan hx h
  rw [hm, hxs, hys]
  exact transpose_bounds _ _ _

theorem Kernel.transpose_fw_writes_all {x ys : Shape} {m : Moves} (hx : WF x)
    (h : Front.transposeFw x = .ok (ys, m)) : m.WritesAll ys.size ∧ m.WritesOnce := by
  have ⟨_, _, _, _, _, _, hm, _, hys⟩ := transposeFw_plan hx h
  rw [hm, hys]
  exact transpose_writes _ _ _

/-- transpose_bw (Naive: `inplace_add_impl(transpose_fw(gy), gx)`): both loop nests in bounds -/
theorem Kernel.transpose_bw_in_bounds {x y gy gx ts : Shape} {mt : Moves} (hx : WF x) (hgy : WF gy)
    (hgx : WF gx) (hG : Front.transposeBwGuard x y gy gx = .ok ()) (hT : Front.transposeFw gy = .ok (ts, mt)) :
    mt.InBounds gy.size ts.size ∧
    (inplaceAddMoves gx.volume (max ts.batch gx.batch) (b2n gx.hasBatch * gx.volume)
      (b2n ts.hasBatch * gx.volume)).InBounds ts.size gx.size := by
  refine ⟨Kernel.transpose_fw_in_bounds hgy hT, ?_⟩
  obtain ⟨hmx, ⟨gxg, gxb⟩, ⟨gyg, gyb⟩, y0, y1, yb⟩ := transposeBwGuard_plan hx hG
  obtain ⟨_, hts, htb, _, _, _, _, _, htsz⟩ := transposeFw_plan hgy hT
  have eb : ts.batch = gx.batch := by rw [htb, ← gyb, yb, gxb]
  have hv : gx.volume = gx.get 0 * gx.get 1 := by
    rw [volume_eq_of_get hgx hx fun i => (gxg i).symm, matrix_volume hx hmx, gxg, gxg]
  have hs : ts.size = gx.volume * ts.batch := by
    rw [htsz, ← gyg, ← gyg, y0, y1, gxg, gxg, hv, htb, Nat.mul_comm (gx.get 1)]
  rw [hs, hgx.size_eq, b2n_hasBatch gx hgx, b2n_hasBatch ts hts]
  exact inplaceAdd_bounds hgx.bpos hts.bpos (Or.inl eb)

/-- permute_dims_fw: reads and writes in bounds, every output element written
exactly once, for every accepted `perm` (the mixed-radix re-encoding `permJ` is
a bijection: Lemmas/MovePermute.lean). -/
theorem Kernel.permute_dims_fw_in_bounds {x ys : Shape} {perm : List Nat} {m : Moves} (hx : WF x)
    (h : Front.permuteFw x perm = .ok (ys, m)) : m.InBounds x.size ys.size ∧ m.WritesAll ys.size ∧ m.WritesOnce := by
  obtain ⟨e1, e2, hb, hw, ho⟩ := permuteFw_facts hx h
  rw [e1, e2]; exact ⟨hb, hw, ho⟩

/-- permute_dims_bw: the same loop nest with source and destination exchanged -/
theorem Kernel.permute_dims_bw_in_bounds {x y gy gx : Shape} {perm : List Nat} {mb : Moves} (hx : WF x) (hy : WF y)
    (hgy : WF gy) (hgx : WF gx) (h : Front.permuteBw x y gy gx perm = .ok mb) : mb.InBounds gy.size gx.size := by
  obtain ⟨m, hF, rfl, rfl, rfl⟩ := permuteBw_plan hx hy hgy hgx h
  exact Moves.swap_inBounds (Kernel.permute_dims_fw_in_bounds hgx hF).1

theorem Kernel.batch_pick_fw_in_bounds {x ys : Shape} {ids : List Nat} {m : Moves} (hx : WF x) (hlen : ids.length < W)
    (h : Front.batchPickFw x ids = .ok (ys, m)) :
    m.InBounds x.size ys.size ∧ ys.batch ≤ ids.length ∧ m.WritesAll ys.size ∧ m.WritesOnce := by
  have ⟨_, hids, _, hb, _, hm, hxs, hys⟩ := batchPickFw_plan hx hlen h
  rw [hm, hxs, hys]
  exact ⟨batchPick_bounds hids, by omega, writesAll_of_id (fun _ => rfl) (by simp [batchPickMoves, Nat.mul_comm])⟩

theorem Kernel.batch_pick_bw_in_bounds {gy gx : Shape} {ids : List Nat} {m : Moves} (hy : WF gy) (hx : WF gx)
    (hlen : ids.length < W) (h : Front.batchPickBw gy gx ids = .ok m) :
    m.InBounds gy.size gx.size ∧ gy.batch ≤ ids.length := by
  have ⟨_, hids, hb, _, hm, hxs, hys⟩ := batchPickBw_plan hy hx hlen h
  rw [hm, hxs, hys]
  exact ⟨Moves.swap_inBounds (batchPick_bounds hids), by omega⟩

theorem Kernel.batch_slice_fw_in_bounds {x ys : Shape} {lower upper : Nat} {m : Moves} (hx : WF x)
    (h : Front.batchSliceFw x lower upper = .ok (ys, m)) :
    m.InBounds x.size ys.size ∧ m.WritesAll ys.size ∧ m.WritesOnce := by
  have ⟨_, _, _, _, _, hm, hxs, hys⟩ := batchSliceFw_plan hx h
  rw [hm, hxs, hys]
  exact ⟨batchSliceFw_bounds (by omega), writesAll_of_id (fun _ => rfl) rfl⟩

theorem Kernel.batch_slice_bw_in_bounds {sy sx : Shape} {offset : Nat} {m : Moves} (hy : WF sy) (hx : WF sx)
    (h : Front.batchSliceBw sy sx offset = .ok m) : m.InBounds sy.size sx.size := by
  have ⟨_, hg, _, hm, hxs, hys⟩ := batchSliceBw_plan hy hx h
  rw [hm, hxs, hys]
  exact batchSliceBw_bounds hg hx.fits

theorem Kernel.batch_sum_fw_in_bounds {x ys : Shape} {r : Reduce} (hx : WF x)
    (h : Front.batchSumFw x = .ok (ys, r)) : r.InBounds x.size ∧ r.rep = ys.size := by
  have ⟨_, _, _, hr, hxs, hys⟩ := batchSumFw_plan hx h
  rw [hr, hxs, hys]
  exact ⟨batchSum_bounds _ _, rfl⟩

/-- batch_concat_fw: every loop nest (one per operand) reads its operand and
writes the output in bounds, and together they write every output element. -/
theorem Kernel.batch_concat_fw_in_bounds {xs : List Shape} {ys : Shape} {ms : List Moves} (hxs : ∀ s ∈ xs, WF s)
    (h : Front.batchConcatFw xs = .ok (ys, ms)) :
    ms.length = xs.length ∧
    (∀ p (hp : p < xs.length) (hp' : p < ms.length), ms[p].InBounds xs[p].size ys.size) ∧
    (∀ o, o < ys.size → ∃ p, ∃ hp : p < ms.length, ∃ t, t < ms[p].count ∧ ms[p].didx t = o) := by
  obtain ⟨x0, rest, hcons, _, _, _, _, hys, rfl, hall⟩ := batchConcatFw_plan hxs h
  have hsum := sizes_sum (V := x0.volume) (fun s hs => (hall s hs).2)
  refine ⟨batchConcatPlan_length _ _, ?_, ?_⟩
  · intro p hp hp' t ht
    rw [batchConcatPlan_get _ _ _ hp] at ht ⊢
    simp only [batchConcatMoves, Nat.zero_add] at ht ⊢
    have := take_sum_succ_le (xs.map (·.size)) p (by simpa using hp)
    simp only [List.getElem_map, ← List.map_take] at this
    rw [hys, ← hsum]
    exact ⟨ht, by omega⟩
  · intro o ho
    rw [hys, ← hsum] at ho
    obtain ⟨p, hp, h1, h2⟩ := exists_block _ o ho
    have hp2 : p < xs.length := by simpa using hp
    refine ⟨p, by rw [batchConcatPlan_length]; exact hp2, o - ((xs.take p).map (·.size)).sum, ?_, ?_⟩
    · rw [batchConcatPlan_get _ _ _ hp2]
      simp only [batchConcatMoves, List.getElem_map, ← List.map_take] at h1 h2 ⊢; omega
    · rw [batchConcatPlan_get _ _ _ hp2]
      simp only [batchConcatMoves, ← List.map_take] at h1 ⊢; omega

/-- concat_fw: every loop nest (one per operand) reads its operand and writes the
output in bounds, and together they write every output element. -/
theorem Kernel.concat_fw_in_bounds {xs : List Shape} {ys : Shape} {ms : List Moves} {dim : Nat} (hxs : ∀ s ∈ xs, WF s)
    (h : Front.concatFw xs dim = .ok (ys, ms)) :
    ms.length = xs.length ∧
    (∀ p (hp : p < xs.length) (hp' : p < ms.length), ms[p].InBounds xs[p].size ys.size) ∧
    (∀ o, o < ys.size → ∃ p, ∃ hp : p < ms.length, ∃ t, t < ms[p].count ∧ ms[p].didx t = o) := by
  obtain ⟨x0, rest, hcons, _, hy, _, _, hms⟩ := concatFw_plan hxs h
  refine ⟨by rw [hms, concatPlan_length], ?_, ?_⟩
  · intro p hp hp'
    obtain ⟨_, hm, hps, hyss, _, hle, hbp⟩ := concatFw_entry hxs h p hp
    rw [hm, hps, hyss]
    exact concat_bounds (hxs _ (List.getElem_mem hp)).bpos hle hbp
  · -- the position of `o` along the axis lies in the block of one operand, whose nest writes `o`
    intro o ho
    have ⟨_, _, _, hyss, hN, _⟩ := concatFw_entry hxs h 0 (by rw [hcons]; simp)
    rw [hyss, Nat.mul_assoc] at ho
    obtain ⟨p, hp, h1, h2⟩ := exists_block _ _
      (Nat.lt_of_lt_of_eq (View3.onAxis_lt (lo := lo ys dim) (i := o) (hy.pos dim)) hN)
    have hp2 : p < xs.length := by simpa using hp
    obtain ⟨hp', hm, _⟩ := concatFw_entry hxs h p hp2
    simp only [List.getElem_map, ← List.map_take] at h1 h2
    obtain ⟨t, ht, e⟩ := concat_covers (Bp := xs[p].batch) (lo_pos hy dim) (up_pos hy dim) ho h1 h2
    exact ⟨p, hp', t, hm ▸ ht, hm ▸ e⟩

theorem Kernel.copy_in_bounds (n : Nat) :
    (copyMoves n).InBounds n n ∧ (copyMoves n).WritesAll n ∧ (copyMoves n).WritesOnce :=
  ⟨copy_bounds n, writesAll_of_id (fun _ => rfl) rfl⟩

theorem Kernel.identity_in_bounds {size : Nat} {ys : Shape} (h : Front.identity size = .ok ys) :
    ys.size = size * size ∧ ∀ i, i < size → i * (size + 1) < ys.size := by
  have ⟨_, _, _, _, hs⟩ := identity_plan h
  exact ⟨hs, fun i hi => by rw [hs]; exact identity_bounds hi⟩

/-! new_handle: defect #9 of DESIGN.md section 4, read, never run. -/

/-- On the pinned tree `mem_size` is a `std::uint32_t`: a shape the constructor
admits (2^30 elements) asks for 0 bytes. -/
theorem NewHandle.pinned_truncates :
    ∃ s, WF s ∧ Front.memSizePinned s < 4 * s.size := by
  refine ⟨⟨[32768, 32768], 1, 1073741824⟩, (new_ok (dims := [32768, 32768]) (b := 1) (by decide)).1, by decide⟩

/-- With `std::size_t` (patches/fix-new-handle-size.diff) the byte count is exact
for every shape. -/
theorem NewHandle.size_t_exact {s : Shape} (hs : WF s) : Front.memSize s = 4 * s.size := by
  unfold Front.memSize
  have : s.size < W := by rw [hs.size_eq]; exact hs.fits
  exact Nat.mod_eq_of_lt (by
    have h1 : W * W = 18446744073709551616 := by decide
    have h2 : W = 4294967296 := rfl
    omega)

/-! `crash` is unreachable (`Api.no_crash` of C10 in DESIGN.md, for the entry points of this family).
For every tensor whose shape is well-formed — valid or not for the call, on this
device, on another one, or invalid — and all argument values, the modelled
entry point returns `ok` or `error`, never `crash`: it neither indexes out of
bounds nor leaves an output element unwritten.  Each proof gives the two facts
`guarded_noCrash` asks for: the front-end does not crash, and the loop runs on
every plan the front-end returns (the bounds above). -/

theorem Api.slice_fw_no_crash {α} (x : Tensor α) (hx : WF x.shape) (dim lower upper : Nat) (raw : Nat → α) :
    NoCrash (Move.sliceFw x dim lower upper raw) :=
  guarded_noCrash [x] (noCrash_bind (Rules.slice_noCrash hx _ _ _) fun _ _ => noCrash_pure _)
    fun _ hp => runSet_noCrash (Kernel.slice_fw_in_bounds hx hp) (Kernel.slice_fw_writes_all hx hp).1

theorem Api.slice_bw_no_crash {α} [Add α] (gy gx : Tensor α) (hy : WF gy.shape) (hx : WF gx.shape) (dim offset : Nat) :
    NoCrash (Move.sliceBw gy dim offset gx) :=
  guarded_noCrash [gy, gx]
    (noCrash_bind (Rules.hasSameLooDims_noCrash _ _ _) fun _ _ =>
      noCrash_ite (fun _ => noCrash_throw) fun _ => noCrash_ite (fun _ => noCrash_pure _) fun _ => noCrash_pure _)
    fun _ hp => runAdd_noCrash (Kernel.slice_bw_in_bounds hy hx hp)

theorem Api.pick_fw_no_crash {α} (x : Tensor α) (hx : WF x.shape) (ids : List Nat) (hlen : ids.length < W) (dim : Nat)
    (raw : Nat → α) : NoCrash (Move.pickFw x ids dim raw) :=
  guarded_noCrash [x] (noCrash_bind (Rules.pick_noCrash hx _ _) fun _ _ => noCrash_pure _)
    fun _ hp => noCrash_ite (fun hc => absurd (Kernel.pick_fw_in_bounds hx hlen hp).2 (by simpa using hc))
      fun _ => runSet_noCrash (Kernel.pick_fw_in_bounds hx hlen hp).1 (Kernel.pick_fw_writes_all hx hlen hp).1

theorem Api.pick_bw_no_crash {α} [Add α] (gy gx : Tensor α) (hy : WF gy.shape) (hx : WF gx.shape) (ids : List Nat)
    (hlen : ids.length < W) (dim : Nat) : NoCrash (Move.pickBw gy ids dim gx) :=
  guarded_noCrash [gy, gx]
    (noCrash_bind (Rules.pick_noCrash hx _ _) fun _ _ => noCrash_ite (fun _ => noCrash_throw) fun _ => noCrash_pure _)
    fun _ hp => noCrash_ite (fun hc => absurd (Kernel.pick_bw_in_bounds hy hx hlen hp).2 (by simpa using hc))
      fun _ => runAdd_noCrash (Kernel.pick_bw_in_bounds hy hx hlen hp).1

theorem Api.flip_fw_no_crash {α} (x : Tensor α) (hx : WF x.shape) (dim : Nat) (raw : Nat → α) :
    NoCrash (Move.flipFw x dim raw) :=
  guarded_noCrash [x] (noCrash_pure _)
    fun _ hp => runSet_noCrash (Kernel.flip_fw_in_bounds hx hp) (Kernel.flip_fw_writes_all hx hp).1

theorem Api.flip_bw_no_crash {α} [Add α] (gy gx : Tensor α) (hy : WF gy.shape) (hx : WF gx.shape) (dim : Nat) :
    NoCrash (Move.flipBw gy dim gx) :=
  guarded_noCrash [gy, gx] (noCrash_ite (fun _ => noCrash_throw) fun _ => noCrash_pure _)
    fun _ hp => runAdd_noCrash (Kernel.flip_bw_in_bounds hy hx hp)

theorem reduceFw_noCrash {x : Shape} (hx : WF x) (dim : Nat) : NoCrash (Front.reduceFw x dim) :=
  noCrash_bind (Rules.updateDim_noCrash hx _ _) fun _ _ => noCrash_pure _

theorem reduce_no_crash {α} (x : Tensor α) (hx : WF x.shape) (dim : Nat) (f : (Nat → α) → (Nat → Nat) → Nat → α) :
    NoCrash (do checkDevice x; let (ys, r) ← Front.reduceFw x.shape dim; runReduce r x ys f) :=
  guarded_noCrash [x] (reduceFw_noCrash hx dim)
    fun _ hp => runReduce_noCrash (Kernel.reduce_fw_in_bounds hx hp).1 (Kernel.reduce_fw_in_bounds hx hp).2.1

theorem Api.sum_fw_no_crash {α} [Add α] [Zero α] (x : Tensor α) (hx : WF x.shape) (dim : Nat) : NoCrash (sumFw x dim) :=
  reduce_no_crash x hx dim sumLoop

theorem Api.max_fw_no_crash {α} [LT α] [DecidableLT α] (x : Tensor α) (hx : WF x.shape) (dim : Nat) : NoCrash (maxFw x dim) :=
  reduce_no_crash x hx dim maxLoop

theorem Api.min_fw_no_crash {α} [LT α] [DecidableLT α] (x : Tensor α) (hx : WF x.shape) (dim : Nat) : NoCrash (minFw x dim) :=
  reduce_no_crash x hx dim minLoop

theorem Api.max_bw_no_crash {α} [Add α] [DecidableEq α] (x y gy gx : Tensor α) (hx : WF x.shape) (hy : WF y.shape)
    (hgy : WF gy.shape) (hgx : WF gx.shape) (dim : Nat) : NoCrash (Move.maxBw x y gy dim gx) := by
  refine guarded_noCrash [x, y, gy, gx]
    (noCrash_bind (Rules.updateDim_noCrash hx _ _) fun _ _ => noCrash_ite (fun _ => noCrash_throw) fun _ => noCrash_pure _)
    fun r hp => noCrash_ite (fun hc => ?_) fun _ => noCrash_pure _
  have ⟨h1, h2, h3, h4⟩ := Kernel.max_bw_in_bounds hx hy hgy hgx hp
  rw [Reduce.inBounds_iff.mpr h1, Reduce.inBounds_iff.mpr h2] at hc
  simp only [Bool.not_true, Bool.false_or, Bool.or_eq_true, decide_eq_true_eq] at hc
  omega

theorem Api.min_bw_no_crash {α} [Add α] [DecidableEq α] (x y gy gx : Tensor α) (hx : WF x.shape) (hy : WF y.shape)
    (hgy : WF gy.shape) (hgx : WF gx.shape) (dim : Nat) : NoCrash (Move.minBw x y gy dim gx) :=
  Api.max_bw_no_crash x y gy gx hx hy hgy hgx dim

theorem Api.broadcast_fw_no_crash {α} (x : Tensor α) (hx : WF x.shape) (dim size : Nat) (raw : Nat → α) :
    NoCrash (Move.broadcastFw x dim size raw) :=
  guarded_noCrash [x] (noCrash_bind (Rules.broadcast_noCrash hx _ _) fun _ _ => noCrash_pure _)
    fun _ hp => runSet_noCrash (Kernel.broadcast_fw_in_bounds hx hp) (Kernel.broadcast_fw_writes_all hx hp).1

/-- argmax / argmin: no argument value at all can make them index out of bounds -/
theorem Api.argmax_no_crash {α} [LT α] [DecidableLT α] (x : Tensor α) (hx : WF x.shape) (dim : Nat) :
    NoCrash (argmax x dim) :=
  noCrash_bind (checkDevice_noCrash x) fun _ _ => argList_noCrash (Kernel.argmax_in_bounds hx dim).1

theorem Api.argmin_no_crash {α} [LT α] [DecidableLT α] (x : Tensor α) (hx : WF x.shape) (dim : Nat) :
    NoCrash (argmin x dim) :=
  noCrash_bind (checkDevice_noCrash x) fun _ _ => argList_noCrash (Kernel.argmax_in_bounds hx dim).1

theorem transposeFw_noCrash (x : Shape) : NoCrash (Front.transposeFw x) :=
  noCrash_bind (Rules.transpose_noCrash _) fun _ _ => noCrash_pure _

theorem Api.transpose_fw_no_crash {α} (x : Tensor α) (hx : WF x.shape) (raw : Nat → α) : NoCrash (Move.transposeFw x raw) :=
  guarded_noCrash [x] (transposeFw_noCrash _)
    fun _ hp => runSet_noCrash (Kernel.transpose_fw_in_bounds hx hp) (Kernel.transpose_fw_writes_all hx hp).1

theorem Api.batch_pick_fw_no_crash {α} (x : Tensor α) (hx : WF x.shape) (ids : List Nat) (hlen : ids.length < W)
    (raw : Nat → α) : NoCrash (Move.batchPickFw x ids raw) :=
  guarded_noCrash [x] (noCrash_bind (Rules.batchPick_noCrash _ _) fun _ _ => noCrash_pure _)
    fun _ hp =>
      have ⟨hb, hle, hw, _⟩ := Kernel.batch_pick_fw_in_bounds hx hlen hp
      noCrash_ite (fun hc => absurd hc (Nat.not_lt.mpr hle)) fun _ => runSet_noCrash hb hw

theorem Api.batch_pick_bw_no_crash {α} [Add α] (gy gx : Tensor α) (hy : WF gy.shape) (hx : WF gx.shape) (ids : List Nat)
    (hlen : ids.length < W) : NoCrash (Move.batchPickBw gy ids gx) :=
  guarded_noCrash [gy, gx]
    (noCrash_bind (Rules.batchPick_noCrash _ _) fun _ _ => noCrash_ite (fun _ => noCrash_throw) fun _ => noCrash_pure _)
    fun _ hp =>
      have ⟨hb, hle⟩ := Kernel.batch_pick_bw_in_bounds hy hx hlen hp
      noCrash_ite (fun hc => absurd hc (Nat.not_lt.mpr hle)) fun _ => runAdd_noCrash hb

theorem Api.batch_slice_fw_no_crash {α} (x : Tensor α) (hx : WF x.shape) (lower upper : Nat) (raw : Nat → α) :
    NoCrash (Move.batchSliceFw x lower upper raw) :=
  guarded_noCrash [x] (noCrash_bind (Rules.batchSlice_noCrash _ _ _) fun _ _ => noCrash_pure _)
    fun _ hp => runSet_noCrash (Kernel.batch_slice_fw_in_bounds hx hp).1 (Kernel.batch_slice_fw_in_bounds hx hp).2.1

theorem Api.batch_slice_bw_no_crash {α} [Add α] (gy gx : Tensor α) (hy : WF gy.shape) (hx : WF gx.shape) (offset : Nat) :
    NoCrash (Move.batchSliceBw gy offset gx) :=
  guarded_noCrash [gy, gx] (noCrash_ite (fun _ => noCrash_throw) fun _ => noCrash_pure _)
    fun _ hp => runAdd_noCrash (Kernel.batch_slice_bw_in_bounds hy hx hp)

theorem Api.batch_sum_fw_no_crash {α} [Add α] [Zero α] (x : Tensor α) (hx : WF x.shape) : NoCrash (Move.batchSumFw x) :=
  guarded_noCrash [x] (noCrash_bind (Rules.updateBatch_noCrash _ _) fun _ _ => noCrash_pure _)
    fun _ hp => runReduce_noCrash (Kernel.batch_sum_fw_in_bounds hx hp).1 (Kernel.batch_sum_fw_in_bounds hx hp).2

theorem Api.concat_fw_no_crash {α} (xs : List (Tensor α)) (hxs : ∀ x ∈ xs, WF x.shape) (dim : Nat) (raw : Nat → α) :
    NoCrash (Move.concatFw xs dim raw) :=
  runMany_noCrash raw
    (noCrash_ite (fun _ => noCrash_throw) fun _ =>
      noCrash_bind (Rules.concat_noCrash (wf_shapes hxs) dim) fun _ _ => noCrash_pure _)
    fun _ _ hp => Kernel.concat_fw_in_bounds (wf_shapes hxs) hp

theorem Api.batch_concat_fw_no_crash {α} (xs : List (Tensor α)) (hxs : ∀ x ∈ xs, WF x.shape) (raw : Nat → α) :
    NoCrash (Move.batchConcatFw xs raw) :=
  runMany_noCrash raw
    (noCrash_ite (fun _ => noCrash_throw) fun _ => noCrash_bind (Rules.batchConcat_noCrash _) fun _ _ => noCrash_pure _)
    fun _ _ hp => Kernel.batch_concat_fw_in_bounds (wf_shapes hxs) hp

theorem Api.transpose_bw_no_crash {α} [Add α] (x y gy gx : Tensor α) (hx : WF x.shape) (_hy : WF y.shape)
    (hgy : WF gy.shape) (hgx : WF gx.shape) (raw : Nat → α) : NoCrash (Move.transposeBw x y gy gx raw) := by
  refine guarded_noCrash [x, y, gy, gx]
    (noCrash_ite (fun _ => noCrash_throw) fun _ => noCrash_bind (Rules.transpose_noCrash _) fun _ _ =>
      noCrash_ite (fun _ => noCrash_throw) fun _ => noCrash_pure _)
    fun _ hG => noCrash_bind (Api.transpose_fw_no_crash gy hgy raw) fun t hT => ?_
  obtain ⟨_, ts, mt, hF, _, _, rfl⟩ := fw_inv hT
  exact runAdd_noCrash (Kernel.transpose_bw_in_bounds hx hgy hgx hG hF).2

theorem Api.permute_dims_fw_no_crash {α} (x : Tensor α) (hx : WF x.shape) (perm : List Nat) (raw : Nat → α) :
    NoCrash (Move.permuteFw x perm raw) :=
  guarded_noCrash [x] (noCrash_bind (Rules.permuteDims_noCrash _ _) fun _ _ => noCrash_pure _)
    fun _ hp => runSet_noCrash (Kernel.permute_dims_fw_in_bounds hx hp).1 (Kernel.permute_dims_fw_in_bounds hx hp).2.1

theorem Api.permute_dims_bw_no_crash {α} [Add α] (x y gy gx : Tensor α) (hx : WF x.shape) (hy : WF y.shape)
    (hgy : WF gy.shape) (hgx : WF gx.shape) (perm : List Nat) : NoCrash (Move.permuteBw x y gy perm gx) :=
  guarded_noCrash [x, y, gy, gx]
    (noCrash_bind (Rules.permuteDims_noCrash _ _) fun _ _ => noCrash_ite (fun _ => noCrash_throw) fun _ => noCrash_pure _)
    fun _ hp => runAdd_noCrash (Kernel.permute_dims_bw_in_bounds hx hy hgy hgx hp)

theorem Api.copy_no_crash {α} (x : Tensor α) (raw : Nat → α) : NoCrash (copyTensor x raw) :=
  noCrash_ite (fun _ => noCrash_throw) fun _ => runSet_noCrash (Kernel.copy_in_bounds _).1 (Kernel.copy_in_bounds _).2.1

theorem Api.identity_no_crash {α} (zero one : α) (size : Nat) : NoCrash (Move.identity zero one size) :=
  noCrash_bind (noCrash_ite (fun _ => noCrash_throw) fun _ => Rules.new_noCrash _ _) fun _ hp =>
    noCrash_ite (fun hc => absurd (allBelow_iff.mpr (Kernel.identity_in_bounds hp).2) (by simpa using hc))
      fun _ => noCrash_pure _

theorem Api.creation_no_crash {α} (x : Tensor α) (k : α) (values : List α) (raw : Nat → α) :
    NoCrash (newConstant x.shape k) ∧ NoCrash (resetTensor k x) ∧ NoCrash (resetByVector values k x raw) ∧
    NoCrash (resetByArray (fun i => values.getD i k) x raw) ∧ NoCrash (toVector x) :=
  have hcopy {src : Nat → α} : NoCrash (runSet (copyMoves x.shape.size) src x.shape.size x.shape raw) :=
    runSet_noCrash (Kernel.copy_in_bounds _).1 (Kernel.copy_in_bounds _).2.1
  ⟨noCrash_pure _,
   noCrash_bind (checkDevice_noCrash x) fun _ _ => noCrash_pure _,
   noCrash_bind (checkDevice_noCrash x) fun _ _ => noCrash_ite (fun _ => noCrash_throw) fun _ => hcopy,
   noCrash_bind (checkDevice_noCrash x) fun _ _ => hcopy,
   noCrash_bind (checkDevice_noCrash x) fun _ _ => noCrash_pure _⟩

end Primitiv.C11.Move
