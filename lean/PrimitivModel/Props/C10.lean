import PrimitivModel.Model.Graph
import PrimitivModel.Lemmas.GraphForward
import PrimitivModel.Lemmas.GraphFailure
import PrimitivModel.Lemmas.GraphFailureSweep
/-
Property C10 — failures are exceptions and change nothing: the graph part (rejected calls of
`Graph::add_operator` / `forward` / `backward`, and failures injected while node values are
computed).  Every `theorem` below is one proof obligation of `./check C10`.

Same model and same history semantics as Props/C05.lean (`Model/Graph.lean`, `Op`, `run`,
`Op.Admissible` of Lemmas/GraphForward.lean).  A failing device allocation is modelled at
operator granularity by `State.failIn`: `some k` = the (k+1)-th *schedulable* operator forward
from now throws (`Kind.faulty`: the harness can only make its own operators fail), after which the
schedule is empty.  `.error .error` is a thrown exception; `.error .crash` is behaviour that the
C++ leaves undefined or an abort.

* `FailEvol fi m ok fi'` (Lemmas/GraphFailure.lean) describes how the schedule evolves over a
  call during which `m` schedulable forwards ran to completion; `s.isFaulty k`: operator `k` of `s` is
  schedulable (`Kind.faulty` of its kind); `isOk r`: the call returned normally.
* `SameVals s s'` (Lemmas/GraphBase.lean): `s'` differs from `s` at most in node gradients and parameter
  gradients.
* `LocalEq s k`: the stored return values of operator `k` are `fwd` of the current values of its
  arguments; `Consistent s`: this holds for every evaluated operator.
* a retry is `forward` from the state the failed attempt reached, with the schedule emptied
  (`s1.clr = { s1 with failIn := none }`: "memory is available again").
-/
namespace Primitiv.C10
open Primitiv.Graph

variable {τ : Type}

/-- the states a program can reach (as in C05) -/
def Reachable (T : TOps τ) (s : State τ) : Prop :=
  ∃ (params : Params τ) (sample : Nat → Nat → τ) (h : List (Op τ)),
    (∀ op ∈ h, op.Admissible) ∧ s = run T (State.empty params sample) h

/-! ### witnesses used by the examples (τ = Nat) -/
def T0 : TOps Nat := ⟨fun _ => 0, fun _ => 1, (· + ·)⟩
/-- `y = Σ xs` -/
def sumSem : OpSem Nat :=
  { nret := 1, fwd := fun xs => some [xs.sum], bwd := fun xs _ gys => xs.map fun _ => gys.head? }
/-- two outputs `(Σ xs, 1 + Σ xs)` -/
def twoSem : OpSem Nat :=
  { nret := 2, fwd := fun xs => some [xs.sum, xs.sum + 1], bwd := fun xs _ _ => xs.map fun _ => none }
def P0 : Params Nat := ⟨fun p => p + 10, fun _ => 0⟩
def smp : Nat → Nat → Nat := fun k n => 100 * k + n
/-- parameter node 0; `1 = 0 + 0`; `(2.0, 2.1) = two(1, 0)`; `3 = 2.0 + 2.1` -/
def h0 : List (Op Nat) :=
  [.addOperator (.param 0) [] [1], .addOperator (.op sumSem) [⟨0, 0⟩, ⟨0, 0⟩] [1],
   .addOperator (.op twoSem) [⟨1, 0⟩, ⟨0, 0⟩] [1, 1], .addOperator (.op sumSem) [⟨2, 0⟩, ⟨2, 1⟩] [1]]
def s0 : State Nat := run T0 (State.empty P0 smp) h0
/-- the second operator forward from now throws -/
def sF : State Nat := { s0 with failIn := some 1 }

theorem h0_admissible : ∀ op ∈ h0, op.Admissible := by
  intro op hop
  simp only [h0, List.mem_cons, List.not_mem_nil, or_false] at hop
  rcases hop with rfl | rfl | rfl | rfl <;> simp [Op.Admissible, KindOK, sumSem, twoSem]
  all_goals (intro xs ys h; subst h; simp)

theorem s0_reachable : Reachable T0 s0 := ⟨P0, smp, h0, h0_admissible, rfl⟩

/-- Every reachable state is well-formed. -/
theorem reachable_wf {T : TOps τ} {s : State τ} (h : Reachable T s) : WF s :=
  Reached.wf h
example : Reachable T0 s0 := s0_reachable

/-- Reachable states are closed under admissible operations (scheduling a failure is one). -/
theorem reachable_run {T : TOps τ} {s : State τ} (hs : Reachable T s) {h : List (Op τ)}
    (hadm : ∀ op ∈ h, op.Admissible) : Reachable T (run T s h) :=
  Reached.closed hs hadm

theorem sF_reachable : Reachable T0 sF :=
  reachable_run s0_reachable (h := [.setFail 1]) (by simp [Op.Admissible])

/-! ### 1. a failure is an exception -/

/-- Whatever failure is scheduled, a request for a valid node returns a value or throws an
exception — it never reaches undefined behaviour — and the schedule evolves as `FailEvol` says:
nothing scheduled → nothing injected; `some k` scheduled and `m` schedulable forwards ran:
on success `m ≤ k` and `some (k - m)` is left; on failure either the scheduled failure fired
(`m = k`, the schedule is empty) or an operator failed by itself and the counter was decremented
by the forwards that ran. -/
theorem Alloc.failure_is_exception {T : TOps τ} {s : State τ} (hs : Reachable T s) {a : Addr}
    (ha : s.validAddr a = true) :
    (forward T s a).2 ≠ .error .crash ∧
    ∃ l, (forward T s a).1.log = s.log ++ l ∧
      FailEvol s.failIn (l.countP s.isFaulty) (isOk (forward T s a).2) (forward T s a).1.failIn :=
  ⟨forward_nocrash T (reachable_wf hs) ha, forward_failEvol T (reachable_wf hs) ha⟩
example : Reachable T0 sF ∧ sF.validAddr ⟨3, 0⟩ = true ∧ (forward T0 sF ⟨3, 0⟩).2 = .error .error ∧
    (forward T0 sF ⟨3, 0⟩).1.log = [1] ∧ (forward T0 sF ⟨3, 0⟩).1.failIn = none :=
  ⟨sF_reachable, rfl, rfl, rfl, rfl⟩

/-- With nothing scheduled nothing is injected: the schedule stays empty. -/
theorem Alloc.no_schedule {T : TOps τ} {s : State τ} (hs : Reachable T s) {a : Addr}
    (ha : s.validAddr a = true) (hf : s.failIn = none) : (forward T s a).1.failIn = none := by
  obtain ⟨l, _, h⟩ := forward_failEvol T (reachable_wf hs) ha
  rw [hf] at h
  exact h
example : s0.failIn = none ∧ (forward T0 s0 ⟨3, 0⟩).2 = .ok 61 := ⟨rfl, rfl⟩

/-- A successful request has counted the schedule down by the schedulable forwards it ran. -/
theorem Alloc.schedule_after_success {T : TOps τ} {s : State τ} (hs : Reachable T s) {a : Addr}
    (ha : s.validAddr a = true) {k : Nat} (hf : s.failIn = some k) {v : τ} (hok : (forward T s a).2 = .ok v) :
    ∃ l, (forward T s a).1.log = s.log ++ l ∧ l.countP s.isFaulty ≤ k ∧
      (forward T s a).1.failIn = some (k - l.countP s.isFaulty) := by
  obtain ⟨l, hl, h⟩ := forward_failEvol T (reachable_wf hs) ha
  rw [hf, hok] at h
  exact ⟨l, hl, h.1, h.2⟩
example : (forward T0 { s0 with failIn := some 5 } ⟨3, 0⟩).2 = .ok 61 ∧
    (forward T0 { s0 with failIn := some 5 } ⟨3, 0⟩).1.failIn = some 2 := ⟨rfl, rfl⟩

/-- A failed request leaves the schedule empty (the failure fired, after exactly `k` schedulable
forwards) or counted down. -/
theorem Alloc.schedule_after_failure {T : TOps τ} {s : State τ} (hs : Reachable T s) {a : Addr}
    (ha : s.validAddr a = true) {k : Nat} (hf : s.failIn = some k) {e : Err} (he : (forward T s a).2 = .error e) :
    e = .error ∧ ∃ l, (forward T s a).1.log = s.log ++ l ∧
      (((forward T s a).1.failIn = none ∧ l.countP s.isFaulty = k) ∨
        ∃ j ≤ k, (forward T s a).1.failIn = some j) := by
  obtain ⟨l, hl, h⟩ := forward_failEvol T (reachable_wf hs) ha
  rw [hf, he] at h
  refine ⟨forward_error T (reachable_wf hs) ha he, l, hl, ?_⟩
  simp only [FailEvol, isOk, Bool.false_eq_true, if_false] at h
  rcases h with ⟨h1, h2⟩ | ⟨h1, h2⟩ | ⟨h1, h2⟩
  · exact .inl ⟨h2, h1⟩
  · exact .inr ⟨_, Nat.sub_le _ _, h2⟩
  · exact .inr ⟨_, by omega, h2⟩
example : sF.failIn = some 1 ∧ (forward T0 sF ⟨3, 0⟩).2 = .error .error := ⟨rfl, rfl⟩

/-! ### 2. a failure leaves a consistent graph -/

/-- The state a (failing or succeeding) request reaches is again a reachable, well-formed state;
in particular every operator has all of its return values or none — no partially built value is
visible — and every value stored before the call is still there, unchanged, as are the
parameters. -/
theorem Alloc.failure_atomic {T : TOps τ} {s : State τ} (hs : Reachable T s) (a : Addr) :
    Reachable T (forward T s a).1 ∧ WF (forward T s a).1 ∧
    (∀ (k : Nat) (o : OpInfo τ), (forward T s a).1.ops[k]? = some o →
      (∀ n ∈ o.rets, n.value = none) ∨ (∀ n ∈ o.rets, n.value.isSome = true)) ∧
    (∀ (b : Addr) (n : NodeInfo τ) (v : τ), s.node? b = some n → n.value = some v →
      ∃ n', (forward T s a).1.node? b = some n' ∧ n'.value = some v) ∧
    (forward T s a).1.params = s.params := by
  have hr : Reachable T (forward T s a).1 := reachable_run hs (h := [.forward a]) (by simp [Op.Admissible])
  have w' := reachable_wf hr
  obtain ⟨l, e, _⟩ := forward_ext T a (reachable_wf hs)
  exact ⟨hr, w', w'.all_or_none, fun b n v hn hv => e.keeps.node hn hv, e.params⟩
example : ((forward T0 sF ⟨3, 0⟩).1.node? ⟨1, 0⟩).bind (·.value) = some 20 ∧
    ((forward T0 sF ⟨3, 0⟩).1.node? ⟨2, 0⟩).bind (·.value) = none ∧
    ((forward T0 sF ⟨3, 0⟩).1.node? ⟨2, 1⟩).bind (·.value) = none := ⟨rfl, rfl, rfl⟩

/-- Every value a (failing or succeeding) request stores is what the operator computes from the
values of its arguments in the state reached: `LocalEq` for every operator the call evaluated. -/
theorem Alloc.stored_values_computed {T : TOps τ} {s : State τ} (hs : Reachable T s) (a : Addr) :
    ∃ l, (forward T s a).1.log = s.log ++ l ∧ ∀ k ∈ l, LocalEq (forward T s a).1 k := by
  obtain ⟨l, e, _⟩ := forward_ext T a (reachable_wf hs)
  exact ⟨l, e.log, e.loc⟩
example : (forward T0 sF ⟨3, 0⟩).1.log = sF.log ++ [1] := rfl

/-- In a history without in-place parameter updates *every* stored value is what its operator
computes from the current values of its arguments, failures or not.  (After a parameter update
the old values are deliberately kept: that is C05.) -/
theorem Alloc.values_consistent (T : TOps τ) (params : Params τ) (sample : Nat → Nat → τ)
    (h : List (Op τ)) (hadm : ∀ op ∈ h, op.Admissible) (hup : ∀ op ∈ h, op.isUpdate = false) :
    Consistent (run T (State.empty params sample) h) :=
  run_consistent T (WF.empty params sample) (Consistent.empty params sample) h hadm hup
example : ∀ op ∈ h0 ++ [.setFail 1, .forward ⟨3, 0⟩, .backward ⟨3, 0⟩], op.isUpdate = false := by
  simp [h0, Op.isUpdate]

/-- The operator whose request failed is exactly as it was: none of its return values has become
visible. -/
theorem Alloc.failed_node_untouched {T : TOps τ} {s : State τ} (hs : Reachable T s) {a : Addr}
    (ha : s.validAddr a = true) {e : Err} (he : (forward T s a).2 = .error e) :
    (forward T s a).1.ops[a.oid]? = s.ops[a.oid]? :=
  forward_error_unevaluated T (reachable_wf hs) ha he
example : (forward T0 sF ⟨3, 0⟩).2 = .error .error ∧ sF.validAddr ⟨3, 0⟩ = true := ⟨rfl, rfl⟩

/-! ### 3. retrying gives the results of a run that never failed -/

/-- **Exact resumption, any schedule.**  If `forward a` with the schedule emptied succeeds from
`s`, then after an attempt from `s` under whatever failure is scheduled, `forward a` with the
schedule emptied returns the same value and reaches the very same state — operators, values,
gradients, log, stream position — as the run that never failed.  No determinism hypothesis: the
evaluation order is fixed, so the attempt evaluates a prefix of the clean run's operators and
random sources receive the same samples. -/
theorem Alloc.retry_resumes {T : TOps τ} {s : State τ} (hs : Reachable T s) {a : Addr}
    (ha : s.validAddr a = true) {sc : State τ} {v : τ} (hclean : forward T s.clr a = (sc, .ok v)) :
    forward T (forward T s a).1.clr a = (sc, .ok v) :=
  forward_resume T (reachable_wf hs) ha hclean
example : sF.clr = s0 ∧ (forward T0 sF.clr ⟨3, 0⟩).2 = .ok 61 ∧ (forward T0 sF ⟨3, 0⟩).2 = .error .error ∧
    (forward T0 (forward T0 sF ⟨3, 0⟩).1.clr ⟨3, 0⟩).2 = .ok 61 := ⟨rfl, rfl, rfl, rfl⟩

/-- For every `k`: let the (k+1)-th operator forward fail during `forward a`; requesting `a` again
once memory is available gives exactly the result and the state `(sc, v)` of a run that never
failed (so every node shows the same `valueOf?`), and no operator is evaluated twice over the
attempt and the retry: the attempt evaluated `l1`, the retry `l2`, and `s.log ++ l1 ++ l2` — the
log of the clean run — has no repetition. -/
theorem Alloc.retry_equals_clean_run {T : TOps τ} {s : State τ} (hs : Reachable T s) {a : Addr}
    (ha : s.validAddr a = true) (k : Nat) {sc : State τ} {v : τ}
    (hclean : forward T { s with failIn := none } a = (sc, .ok v)) :
    forward T { (forward T { s with failIn := some k } a).1 with failIn := none } a = (sc, .ok v) ∧
    ∃ l1 l2, (forward T { s with failIn := some k } a).1.log = s.log ++ l1 ∧
      sc.log = s.log ++ l1 ++ l2 ∧ (s.log ++ l1 ++ l2).Nodup := by
  obtain ⟨hres, l1, l2, h1, h2, h3⟩ := retry_exact T (reachable_wf hs) ha k (v := v) (by rw [hclean])
  rw [hclean] at hres h2
  exact ⟨hres, l1, l2, h1, h2, h3⟩
example : Reachable T0 s0 ∧ s0.validAddr ⟨3, 0⟩ = true ∧ (forward T0 { s0 with failIn := none } ⟨3, 0⟩).2 = .ok 61 ∧
    (forward T0 { s0 with failIn := some 1 } ⟨3, 0⟩).2 = .error .error ∧
    (forward T0 { s0 with failIn := some 1 } ⟨3, 0⟩).1.log = [1] ∧
    (forward T0 { (forward T0 { s0 with failIn := some 1 } ⟨3, 0⟩).1 with failIn := none } ⟨3, 0⟩).2 = .ok 61 ∧
    (forward T0 { (forward T0 { s0 with failIn := some 1 } ⟨3, 0⟩).1 with failIn := none } ⟨3, 0⟩).1.log = [1, 2, 3] :=
  ⟨s0_reachable, rfl, rfl, rfl, rfl, rfl, rfl⟩

/-- The same with a random source among the ancestors (witness for the statement above): the
sample drawn before the failure is the one the clean run draws. -/
example :
    let g : State Nat := run T0 (State.empty P0 smp)
      [.addOperator .rnd [] [1], .addOperator .rnd [] [1], .addOperator (.op sumSem) [⟨1, 0⟩, ⟨0, 0⟩] [1]]
    (forward T0 { g with failIn := some 1 } ⟨2, 0⟩).2 = .error .error ∧
    (forward T0 { g with failIn := some 1 } ⟨2, 0⟩).1.rndPos = 1 ∧
    (forward T0 { (forward T0 { g with failIn := some 1 } ⟨2, 0⟩).1 with failIn := none } ⟨2, 0⟩).2 =
      (forward T0 { g with failIn := none } ⟨2, 0⟩).2 ∧
    (forward T0 { g with failIn := none } ⟨2, 0⟩).2 = .ok 102 :=
  -- third part: each side is evaluated to `.ok 102`; unifying the two unevaluated runs is slow
  ⟨rfl, rfl, Eq.trans (b := .ok 102) rfl rfl, rfl⟩

/-! ### 4. rejected calls change nothing -/

/-- `add_operator` with an argument that is not a node of this graph is rejected (in the model:
`CHECK_NODE` aborts, i.e. `crash`; for a node of another graph see finding 8b8c857 in /verif/known_findings.json); an
`Except.error` carries no state, the caller keeps `s`: `step` returns `s` itself.  An accepted call
only appends one operator without values (C05 `creation_computes_nothing`). -/
theorem Graph.reject_unchanged (T : TOps τ) (s : State τ) (kind : Kind τ) (args : List Addr) (sizes : List Nat) :
    (args.all s.validAddr = false →
      addOperator s kind args sizes = .error .crash ∧ step T s (.addOperator kind args sizes) = s) ∧
    (args.all s.validAddr = true →
      addOperator s kind args sizes = .ok ({ s with ops := s.ops ++ [freshOp kind args sizes] }, s.ops.length)) := by
  rw [addOperator_eq]
  constructor
  · intro h
    simp [step, addOperator_eq, h]
  · intro h
    simp [h, State.push]
example : addOperator s0 (.op sumSem) [⟨0, 0⟩, ⟨7, 0⟩] [1] = .error .crash := rfl

/-- `forward` and `backward` of something that is not a node of this graph return the graph
unchanged. -/
theorem Graph.invalid_node_unchanged (T : TOps τ) (s : State τ) (a : Addr) (h : s.validAddr a = false) :
    forward T s a = (s, .error .crash) ∧ backward T s a = (s, .error .crash) :=
  ⟨forward_invalid T h, backward_invalid T h⟩
example : s0.validAddr ⟨2, 2⟩ = false ∧ s0.validAddr ⟨4, 0⟩ = false := ⟨rfl, rfl⟩

/-! ### 5. `backward`: a failure in its forward phase -/

/-- If the forward evaluation that `backward a` starts with fails, `backward` fails with the same
exception in the state that `forward` reached: the parameters — values *and gradients* — are those
of `s`, no node gradient has changed, and the node values are as after the failed `forward`
(`Alloc.failure_atomic`, `Alloc.stored_values_computed`). -/
theorem Alloc.backward_failure_atomic {T : TOps τ} {s : State τ} (hs : Reachable T s) {a : Addr}
    (ha : s.validAddr a = true) {e : Err} (he : (forward T s a).2 = .error e)
    (hval : ∀ n, s.node? a = some n → n.value = none) :
    backward T s a = ((forward T s a).1, .error e) ∧ e = .error ∧
    (backward T s a).1.params = s.params ∧
    (∀ b, ((backward T s a).1.node? b).map (·.grad) = (s.node? b).map (·.grad)) ∧
    WF (backward T s a).1 := by
  obtain ⟨n, hn⟩ := node?_of_valid ha
  obtain ⟨l, ext, _⟩ := forward_ext T a (reachable_wf hs)
  rw [backward_fwd_error T ha hn (hval n hn) he]
  exact ⟨rfl, forward_error T (reachable_wf hs) ha he, ext.params, ext.node_grad, ext.wf (reachable_wf hs)⟩
example : (backward T0 sF ⟨3, 0⟩).2 = .error .error ∧ (backward T0 sF ⟨3, 0⟩).1.log = [1] ∧
    (backward T0 sF ⟨3, 0⟩).1.params.grad 0 = 0 := ⟨rfl, rfl, rfl⟩

/-- No gradient of a node is pending between the calls of a history (C06's invariant, here for
the histories of this file, failing calls included). -/
theorem reachable_gradsInvalid {T : TOps τ} {s : State τ} (h : Reachable T s) : AllGradsInvalid s :=
  Reached.gradsInvalid h
example : Reachable T0 (run T0 sF [.backward ⟨3, 0⟩]) :=
  reachable_run sF_reachable (by simp [Op.Admissible])

/-- `backward a` can fail in two ways only: `a` is not a node of this graph (nothing happens), or
the forward evaluation of `a` throws, and then `backward` throws the same exception in the state
that `forward` reached.  In particular the reverse sweep itself never fails and never reaches
undefined behaviour in a reachable state. -/
theorem Alloc.backward_fails_only_in_forward {T : TOps τ} {s s' : State τ} (hs : Reachable T s) {a : Addr}
    {e : Err} (h : backward T s a = (s', .error e)) :
    (s.validAddr a = false ∧ s' = s ∧ e = .crash) ∨
    (s.validAddr a = true ∧ (∃ n, s.node? a = some n ∧ n.value = none) ∧
      (forward T s a).2 = .error e ∧ s' = (forward T s a).1 ∧ e = .error) := by
  rcases backward_error_cases T (reachable_wf hs) (reachable_gradsInvalid hs) h with h1 | ⟨h1, h2, h3, h4⟩
  · exact .inl h1
  · exact .inr ⟨h1, h2, h3, h4, forward_error T (reachable_wf hs) h1 h3⟩
example : (backward T0 sF ⟨3, 0⟩).2 = .error .error ∧ (backward T0 sF ⟨4, 0⟩).2 = .error .crash ∧
    (backward T0 s0 ⟨3, 0⟩).2 = .ok () := ⟨rfl, rfl, rfl⟩

/-- A failing `backward`, wherever it fails, leaves the parameters — values and gradients — and
all node gradients unchanged, every value stored before in place, and a well-formed graph. -/
theorem Alloc.backward_failure_changes_no_gradient {T : TOps τ} {s s' : State τ} (hs : Reachable T s)
    {a : Addr} {e : Err} (h : backward T s a = (s', .error e)) :
    s'.params = s.params ∧ (∀ b, (s'.node? b).map (·.grad) = (s.node? b).map (·.grad)) ∧ WF s' ∧
    (∀ (b : Addr) (n : NodeInfo τ) (v : τ), s.node? b = some n → n.value = some v →
      ∃ n', s'.node? b = some n' ∧ n'.value = some v) := by
  rcases backward_error_cases T (reachable_wf hs) (reachable_gradsInvalid hs) h with ⟨_, rfl, _⟩ | ⟨_, _, _, rfl⟩
  · exact ⟨rfl, fun _ => rfl, reachable_wf hs, fun b n v hn hv => ⟨n, hn, hv⟩⟩
  · obtain ⟨l, ext, _⟩ := forward_ext T a (reachable_wf hs)
    exact ⟨ext.params, ext.node_grad, ext.wf (reachable_wf hs), fun b n v hn hv => ext.keeps.node hn hv⟩
example : (backward T0 sF ⟨3, 0⟩).2 = .error .error ∧ (backward T0 sF ⟨3, 0⟩).1.params.grad 0 = sF.params.grad 0 :=
  ⟨rfl, rfl⟩

/-- When the node already has its value `backward` evaluates nothing at all (no allocation for
values can fail): the log, the stream and all values are unchanged. -/
theorem Alloc.backward_memoised_evaluates_nothing {T : TOps τ} {s : State τ} {a : Addr}
    {n : NodeInfo τ} {v : τ} (hn : s.node? a = some n) (hv : n.value = some v) :
    SameVals s (backward T s a).1 := by
  rw [backward_memo T (validAddr_of_node hn) hn hv]
  exact ((seed_sameFrame T s a).trans (sweep_sameFrame T _ _)).sameVals
example : ((forward T0 s0 ⟨3, 0⟩).1.node? ⟨3, 0⟩).bind (·.value) = some 61 := rfl

end Primitiv.C10
