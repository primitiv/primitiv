import PrimitivModel.Analysis.Scalar
import PrimitivModel.Gen.Elementwise
import Mathlib.Tactic.Ring
/-
C08 (all CPU backends compute the same function), arithmetic kernels.

`Elementwise.naive_eq_eigen_<kernel>`: for every elementwise kernel pair the
formula generated from devices/naive/ops and the one generated from
devices/eigen/ops denote the same function over ℝ.  All pairs but five are equal
after token normalisation, which sorts the arguments of sums and products
(`syntactic_pairs` lists the five that are not): they are closed by `ring` with
the scalar functions as atoms, an argument that would go through over any
commutative ring and uses nothing of ℝ.  The five `select` / `sign` forms
(abs_bw, prelu, elu) need a case split on the sign of x, and so the order of ℝ.
The loop kernels (binary backward, matmul, conv2d, max_pool2d, logsumexp, pown,
in-place) have one model for both backends: each backend is tied to that model
by the correspondence run.
-/
namespace Primitiv.C08.Arith
open Primitiv.Gen.Elementwise Primitiv.Analysis

namespace Elementwise

theorem naive_eq_eigen_abs_bw (x y gy : ℝ) :
    naive_abs_bw realFns x y gy = eigen_abs_bw realFns x y gy := by
  unfold naive_abs_bw eigen_abs_bw
  rw [lit_zero, lit_one, fns_sign, sgn]
  rcases lt_trichotomy x 0 with h | rfl | h
  · simp [h, h.not_gt]
  · simp
  · simp [h, h.not_gt]

theorem naive_eq_eigen_abs_fw (x : ℝ) :
    naive_abs_fw realFns x = eigen_abs_fw realFns x := by
  unfold naive_abs_fw eigen_abs_fw
  ring

theorem naive_eq_eigen_add_fw (a b : ℝ) :
    naive_add_fw realFns a b = eigen_add_fw realFns a b := by
  unfold naive_add_fw eigen_add_fw
  ring

theorem naive_eq_eigen_add_const_bw (x y gy k : ℝ) :
    naive_add_const_bw realFns x y gy k = eigen_add_const_bw realFns x y gy k := by
  unfold naive_add_const_bw eigen_add_const_bw
  ring

theorem naive_eq_eigen_add_const_fw (x k : ℝ) :
    naive_add_const_fw realFns x k = eigen_add_const_fw realFns x k := by
  unfold naive_add_const_fw eigen_add_const_fw
  ring

theorem naive_eq_eigen_add_scalar_fw (x k : ℝ) :
    naive_add_scalar_fw realFns x k = eigen_add_scalar_fw realFns x k := by
  unfold naive_add_scalar_fw eigen_add_scalar_fw
  ring

theorem naive_eq_eigen_cos_bw (x y gy : ℝ) :
    naive_cos_bw realFns x y gy = eigen_cos_bw realFns x y gy := by
  unfold naive_cos_bw eigen_cos_bw
  ring

theorem naive_eq_eigen_cos_fw (x : ℝ) :
    naive_cos_fw realFns x = eigen_cos_fw realFns x := by
  unfold naive_cos_fw eigen_cos_fw
  ring

theorem naive_eq_eigen_divide_fw (a b : ℝ) :
    naive_divide_fw realFns a b = eigen_divide_fw realFns a b := by
  unfold naive_divide_fw eigen_divide_fw
  ring

theorem naive_eq_eigen_divide_const_l_bw (x y gy k : ℝ) :
    naive_divide_const_l_bw realFns x y gy k = eigen_divide_const_l_bw realFns x y gy k := by
  unfold naive_divide_const_l_bw eigen_divide_const_l_bw
  ring

theorem naive_eq_eigen_divide_const_l_fw (x k : ℝ) :
    naive_divide_const_l_fw realFns x k = eigen_divide_const_l_fw realFns x k := by
  unfold naive_divide_const_l_fw eigen_divide_const_l_fw
  ring

theorem naive_eq_eigen_divide_const_r_bw (x y gy k : ℝ) :
    naive_divide_const_r_bw realFns x y gy k = eigen_divide_const_r_bw realFns x y gy k := by
  unfold naive_divide_const_r_bw eigen_divide_const_r_bw
  ring

theorem naive_eq_eigen_divide_const_r_fw (x k : ℝ) :
    naive_divide_const_r_fw realFns x k = eigen_divide_const_r_fw realFns x k := by
  unfold naive_divide_const_r_fw eigen_divide_const_r_fw
  ring

theorem naive_eq_eigen_divide_scalar_l_fw (x k : ℝ) :
    naive_divide_scalar_l_fw realFns x k = eigen_divide_scalar_l_fw realFns x k := by
  unfold naive_divide_scalar_l_fw eigen_divide_scalar_l_fw
  ring

theorem naive_eq_eigen_divide_scalar_r_fw (x k : ℝ) :
    naive_divide_scalar_r_fw realFns x k = eigen_divide_scalar_r_fw realFns x k := by
  unfold naive_divide_scalar_r_fw eigen_divide_scalar_r_fw
  ring

theorem naive_eq_eigen_elu_bw (x y gy k : ℝ) :
    naive_elu_bw realFns x y gy k = eigen_elu_bw realFns x y gy k := by
  unfold naive_elu_bw eigen_elu_bw
  rw [lit_zero, lit_one]
  by_cases h : x > 0
  · simp [h, h.not_ge]
  · simp [h, not_lt.mp h, mul_comm]

theorem naive_eq_eigen_elu_fw (x k : ℝ) :
    naive_elu_fw realFns x k = eigen_elu_fw realFns x k := by
  unfold naive_elu_fw eigen_elu_fw
  rw [lit_zero, lit_one]
  by_cases h : x > 0
  · simp [h, h.not_ge]
  · simp [h, not_lt.mp h]

theorem naive_eq_eigen_exp_bw (x y gy : ℝ) :
    naive_exp_bw realFns x y gy = eigen_exp_bw realFns x y gy := by
  unfold naive_exp_bw eigen_exp_bw
  ring

theorem naive_eq_eigen_exp_fw (x : ℝ) :
    naive_exp_fw realFns x = eigen_exp_fw realFns x := by
  unfold naive_exp_fw eigen_exp_fw
  ring

theorem naive_eq_eigen_log_bw (x y gy : ℝ) :
    naive_log_bw realFns x y gy = eigen_log_bw realFns x y gy := by
  unfold naive_log_bw eigen_log_bw
  ring

theorem naive_eq_eigen_log_fw (x : ℝ) :
    naive_log_fw realFns x = eigen_log_fw realFns x := by
  unfold naive_log_fw eigen_log_fw
  ring

theorem naive_eq_eigen_multiply_fw (a b : ℝ) :
    naive_multiply_fw realFns a b = eigen_multiply_fw realFns a b := by
  unfold naive_multiply_fw eigen_multiply_fw
  ring

theorem naive_eq_eigen_multiply_const_bw (x y gy k : ℝ) :
    naive_multiply_const_bw realFns x y gy k = eigen_multiply_const_bw realFns x y gy k := by
  unfold naive_multiply_const_bw eigen_multiply_const_bw
  ring

theorem naive_eq_eigen_multiply_const_fw (x k : ℝ) :
    naive_multiply_const_fw realFns x k = eigen_multiply_const_fw realFns x k := by
  unfold naive_multiply_const_fw eigen_multiply_const_fw
  ring

theorem naive_eq_eigen_multiply_scalar_fw (x k : ℝ) :
    naive_multiply_scalar_fw realFns x k = eigen_multiply_scalar_fw realFns x k := by
  unfold naive_multiply_scalar_fw eigen_multiply_scalar_fw
  ring

theorem naive_eq_eigen_negate_fw (x : ℝ) :
    naive_negate_fw realFns x = eigen_negate_fw realFns x := by
  unfold naive_negate_fw eigen_negate_fw
  ring

theorem naive_eq_eigen_pow_fw (a b : ℝ) :
    naive_pow_fw realFns a b = eigen_pow_fw realFns a b := by
  unfold naive_pow_fw eigen_pow_fw
  ring

theorem naive_eq_eigen_pow_const_l_bw (x y gy k : ℝ) :
    naive_pow_const_l_bw realFns x y gy k = eigen_pow_const_l_bw realFns x y gy k := by
  unfold naive_pow_const_l_bw eigen_pow_const_l_bw
  ring

theorem naive_eq_eigen_pow_const_l_fw (x k : ℝ) :
    naive_pow_const_l_fw realFns x k = eigen_pow_const_l_fw realFns x k := by
  unfold naive_pow_const_l_fw eigen_pow_const_l_fw
  ring

theorem naive_eq_eigen_pow_const_r_bw (x y gy k : ℝ) :
    naive_pow_const_r_bw realFns x y gy k = eigen_pow_const_r_bw realFns x y gy k := by
  unfold naive_pow_const_r_bw eigen_pow_const_r_bw
  ring

theorem naive_eq_eigen_pow_const_r_fw (x k : ℝ) :
    naive_pow_const_r_fw realFns x k = eigen_pow_const_r_fw realFns x k := by
  unfold naive_pow_const_r_fw eigen_pow_const_r_fw
  ring

theorem naive_eq_eigen_pow_scalar_l_fw (x k : ℝ) :
    naive_pow_scalar_l_fw realFns x k = eigen_pow_scalar_l_fw realFns x k := by
  unfold naive_pow_scalar_l_fw eigen_pow_scalar_l_fw
  ring

theorem naive_eq_eigen_pow_scalar_r_fw (x k : ℝ) :
    naive_pow_scalar_r_fw realFns x k = eigen_pow_scalar_r_fw realFns x k := by
  unfold naive_pow_scalar_r_fw eigen_pow_scalar_r_fw
  ring

theorem naive_eq_eigen_prelu_bw (x y gy k : ℝ) :
    naive_prelu_bw realFns x y gy k = eigen_prelu_bw realFns x y gy k := by
  unfold naive_prelu_bw eigen_prelu_bw
  rw [lit_zero, lit_one]
  by_cases h : x > 0
  · simp [h, h.not_ge]
  · simp [h, not_lt.mp h, mul_comm]

theorem naive_eq_eigen_prelu_fw (x k : ℝ) :
    naive_prelu_fw realFns x k = eigen_prelu_fw realFns x k := by
  unfold naive_prelu_fw eigen_prelu_fw
  rw [lit_zero, lit_one]
  by_cases h : x > 0
  · simp [h, h.not_ge]
  · simp [h, not_lt.mp h, mul_comm]

theorem naive_eq_eigen_sigmoid_bw (x y gy : ℝ) :
    naive_sigmoid_bw realFns x y gy = eigen_sigmoid_bw realFns x y gy := by
  unfold naive_sigmoid_bw eigen_sigmoid_bw
  ring

theorem naive_eq_eigen_sigmoid_fw (x : ℝ) :
    naive_sigmoid_fw realFns x = eigen_sigmoid_fw realFns x := by
  unfold naive_sigmoid_fw eigen_sigmoid_fw
  ring

theorem naive_eq_eigen_sin_bw (x y gy : ℝ) :
    naive_sin_bw realFns x y gy = eigen_sin_bw realFns x y gy := by
  unfold naive_sin_bw eigen_sin_bw
  ring

theorem naive_eq_eigen_sin_fw (x : ℝ) :
    naive_sin_fw realFns x = eigen_sin_fw realFns x := by
  unfold naive_sin_fw eigen_sin_fw
  ring

theorem naive_eq_eigen_softplus_bw (x y gy : ℝ) :
    naive_softplus_bw realFns x y gy = eigen_softplus_bw realFns x y gy := by
  unfold naive_softplus_bw eigen_softplus_bw
  ring

theorem naive_eq_eigen_softplus_fw (x : ℝ) :
    naive_softplus_fw realFns x = eigen_softplus_fw realFns x := by
  unfold naive_softplus_fw eigen_softplus_fw
  ring

theorem naive_eq_eigen_sqrt_bw (x y gy : ℝ) :
    naive_sqrt_bw realFns x y gy = eigen_sqrt_bw realFns x y gy := by
  unfold naive_sqrt_bw eigen_sqrt_bw
  ring

theorem naive_eq_eigen_sqrt_fw (x : ℝ) :
    naive_sqrt_fw realFns x = eigen_sqrt_fw realFns x := by
  unfold naive_sqrt_fw eigen_sqrt_fw
  ring

theorem naive_eq_eigen_subtract_fw (a b : ℝ) :
    naive_subtract_fw realFns a b = eigen_subtract_fw realFns a b := by
  unfold naive_subtract_fw eigen_subtract_fw
  ring

theorem naive_eq_eigen_subtract_const_l_bw (x y gy k : ℝ) :
    naive_subtract_const_l_bw realFns x y gy k = eigen_subtract_const_l_bw realFns x y gy k := by
  unfold naive_subtract_const_l_bw eigen_subtract_const_l_bw
  ring

theorem naive_eq_eigen_subtract_const_l_fw (x k : ℝ) :
    naive_subtract_const_l_fw realFns x k = eigen_subtract_const_l_fw realFns x k := by
  unfold naive_subtract_const_l_fw eigen_subtract_const_l_fw
  ring

theorem naive_eq_eigen_subtract_const_r_bw (x y gy k : ℝ) :
    naive_subtract_const_r_bw realFns x y gy k = eigen_subtract_const_r_bw realFns x y gy k := by
  unfold naive_subtract_const_r_bw eigen_subtract_const_r_bw
  ring

theorem naive_eq_eigen_subtract_const_r_fw (x k : ℝ) :
    naive_subtract_const_r_fw realFns x k = eigen_subtract_const_r_fw realFns x k := by
  unfold naive_subtract_const_r_fw eigen_subtract_const_r_fw
  ring

theorem naive_eq_eigen_subtract_scalar_l_fw (x k : ℝ) :
    naive_subtract_scalar_l_fw realFns x k = eigen_subtract_scalar_l_fw realFns x k := by
  unfold naive_subtract_scalar_l_fw eigen_subtract_scalar_l_fw
  ring

theorem naive_eq_eigen_subtract_scalar_r_fw (x k : ℝ) :
    naive_subtract_scalar_r_fw realFns x k = eigen_subtract_scalar_r_fw realFns x k := by
  unfold naive_subtract_scalar_r_fw eigen_subtract_scalar_r_fw
  ring

theorem naive_eq_eigen_tan_bw (x y gy : ℝ) :
    naive_tan_bw realFns x y gy = eigen_tan_bw realFns x y gy := by
  unfold naive_tan_bw eigen_tan_bw
  ring

theorem naive_eq_eigen_tan_fw (x : ℝ) :
    naive_tan_fw realFns x = eigen_tan_fw realFns x := by
  unfold naive_tan_fw eigen_tan_fw
  ring

theorem naive_eq_eigen_tanh_bw (x y gy : ℝ) :
    naive_tanh_bw realFns x y gy = eigen_tanh_bw realFns x y gy := by
  unfold naive_tanh_bw eigen_tanh_bw
  ring

theorem naive_eq_eigen_tanh_fw (x : ℝ) :
    naive_tanh_fw realFns x = eigen_tanh_fw realFns x := by
  unfold naive_tanh_fw eigen_tanh_fw
  ring

/-- The kernels whose two formulas are NOT equal as normalised token strings (computed by the
translator, Gen/Elementwise.lean `syntacticallyDifferent`): the five that need the case split.  The
theorem compares the generated list with this copy of it, so what it says is that the list has not
changed: a new entry means the two sources diverged textually somewhere else. -/
theorem syntactic_pairs : syntacticallyDifferent = ["abs_bw", "elu_bw", "elu_fw", "prelu_bw", "prelu_fw"] := by
  decide +kernel

/-- every formula of both backends is inside the translated subset -/
theorem all_supported : unsupportedFormulas = [] := by decide +kernel

/-- both backends define the same set of elementwise kernels (no normal form is absent) -/
theorem same_kernel_set : (normalForms.filter fun r => r.2.1 == "-" || r.2.2 == "-") = [] := by decide +kernel

end Elementwise
end Primitiv.C08.Arith
