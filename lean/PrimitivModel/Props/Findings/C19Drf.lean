import PrimitivModel.Lemmas.Spinlock
/-
Finding (defect #10 of DESIGN.md section 4): on the pinned tree
`RecursiveSpinlock::locked_thread_id_` is a plain `std::thread::id`.  A thread
that loses the test_and_set reads it (spinlock.h:55; unlock() reads it too, :74)
while the thread that won the flag writes it (:59, and :78 on release), so
`RSpin.DRF` is FALSE for the pinned declarations.  This module is not an
obligation of the check; it records the negation with its concrete reachable
witness (two threads calling lock(): schedule `step 0, step 1`), and the same
for any declaration table with a plain owner field: when `RSpin.drf` stops
checking and the translated table says "plain", props/C19.py cites
`drf_violated_of_plain_owner` and replays the witness on the real code.
Repair: patches/fix-spinlock-owner-atomic.diff.
-/
namespace Primitiv.C19
open Primitiv.Lock

/-- The declarations of RecursiveSpinlock on the pinned tree (snapshot 562ab3b),
as the translator emitted them. -/
def pinnedRspin : Decls where
  atomic := fun f => match f with
    | .ready => true
    | .owner => false
    | .count => false
  tryLock := [⟨.ready, .rmw, .acquire⟩, ⟨.owner, .read, .plain⟩, ⟨.owner, .write, .plain⟩, ⟨.count, .rmw, .plain⟩]
  unlock := [⟨.owner, .read, .plain⟩, ⟨.count, .rmw, .plain⟩, ⟨.owner, .write, .plain⟩, ⟨.ready, .write, .release⟩]

/-- Whenever the owner field is not atomic there is a data race on it. -/
theorem RSpin.drf_violated_of_plain_owner (d : Decls) (ho : d.atomic .owner = false) :
    ¬ RSpin.DRF d RSpin.witnessProgs :=
  RSpin.not_drf_of_plain_owner d ho

/-- The witness: after `step 0, step 1` of two threads calling lock(), thread 0
is about to write `locked_thread_id_` and thread 1 is about to read it. -/
theorem RSpin.drf_violated_witness :
    RSpin.Reach RSpin.witnessProgs RSpin.witness ∧
    (RSpin.witness.thr 0).pc = .tWr true ∧ (RSpin.witness.thr 1).pc = .tRd true ∧
    Conflict pinnedRspin (RSpin.nextAccess (RSpin.witness.thr 0).pc) (RSpin.nextAccess (RSpin.witness.thr 1).pc) ∧
    ¬ RSpin.DRF pinnedRspin RSpin.witnessProgs := by
  refine ⟨RSpin.witness_reach, RSpin.witness_pcs.1, RSpin.witness_pcs.2, ?_, RSpin.not_drf_of_plain_owner _ rfl⟩
  rw [RSpin.witness_pcs.1, RSpin.witness_pcs.2]
  decide

end Primitiv.C19
