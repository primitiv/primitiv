import PrimitivModel.Lemmas.Rng
import Mathlib.Data.Int.SuccPred
import Mathlib.Algebra.Order.Field.Rat
import Mathlib.Tactic.NormNum
/-
Property C17 — random sources and initializers honour their contracts,
reproducibly.  PARTIAL by design: that `std::mt19937` and the libstdc++
distribution objects at their standard parameters produce U[0,1) resp. N(0,1)
is trusted (see `Model/Rng.lean`, `stdDraw`).  What is proved here, over the
definitions generated from the C++ text (`Gen/Rng.lean`) and the model on top
of them (`Model/Rng.lean`, the definitions the driver `drv_rng` runs):

* which parameters `Device::random_*` rejects (`Rng.guard_*`): a NaN `p`, bound
  or `sd` is rejected; the `mean` of the two normal distributions is not
  looked at, so a NaN there passes,
* the `(lower, upper]` fix-up of `fill_uniform`,
* Bernoulli masks are 0/1,
* the algebra of `dropout` (`Drop.*`),
* the initializer formulas (`Init.*`),
* one stream per device, consumed in call order; a rejected request draws nothing,
* both backends hand their parameters to the matching `fill_*` in order, and the
  `fill_*` build the named libstdc++ objects from them and store their draws.

The scalar type is abstract: each theorem fixes the meaning of the operations
of `Sc α` it needs through `IeeeCmp`, `SuccNext` or `ExactArith`
(`Lemmas/Rng.lean`); float rounding is outside every theorem.  The `example`s
show that these hypotheses have concrete instances.
-/
-- every statement of a section is over the same classes, whether or not it needs all of them
set_option linter.unusedSectionVars false
namespace Primitiv.C17
open Primitiv Primitiv.Rng Primitiv.Gen.Rng

/-- IEEE-like comparisons over `Option Int` (`none` = NaN); the arithmetic fields are irrelevant here. -/
def exIeee : Sc (Option Int) where
  lt a b := match a, b with | some x, some y => decide (x < y) | _, _ => false
  le a b := match a, b with | some x, some y => decide (x ≤ y) | _, _ => false
  eq a b := match a, b with | some x, some y => decide (x = y) | _, _ => false
  add a _ := a
  sub a _ := a
  mul a _ := a
  div a _ := a
  neg a := a
  sqrt a := a
  nextafter a _ := a
  exp a := a
  ofNat n := some n
  narrow a := a

/-- The integers as a discrete order: `nextafter` steps by one. -/
def exInt : Sc Int where
  lt a b := decide (a < b)
  le a b := decide (a ≤ b)
  eq a b := decide (a = b)
  add a b := a + b
  sub a b := a - b
  mul a b := a * b
  div a b := a / b
  neg a := -a
  sqrt a := a
  nextafter a b := if a < b then a + 1 else if b < a then a - 1 else b
  exp a := a
  ofNat n := n
  narrow a := a

/-- The rationals with exact arithmetic (`sqrt` is not needed to be a square root for the formulas). -/
def exRat : Sc Rat where
  lt a b := decide (a < b)
  le a b := decide (a ≤ b)
  eq a b := decide (a = b)
  add a b := a + b
  sub a b := a - b
  mul a b := a * b
  div a b := a / b
  neg a := -a
  sqrt a := a
  nextafter a _ := a
  exp a := a
  ofNat n := n
  narrow a := a

section guards
variable {α : Type} [LinearOrder α] {S : Sc (Option α)} {lit : Nat → α}

theorem Rng.guard_iff_bernoulli (h : IeeeCmp S lit) (p : α) :
    guard_random_bernoulli S (some p) = true ↔ p < lit 0 ∨ lit 1 < p := by
  simp [guard_random_bernoulli, h.le_some, h.ofNat, not_le]

theorem Rng.guard_iff_uniform (h : IeeeCmp S lit) (lower upper : α) :
    guard_random_uniform S (some lower) (some upper) = true ↔ upper < lower := by
  simp [guard_random_uniform, h.le_some, not_le]

theorem Rng.guard_iff_normal (h : IeeeCmp S lit) (mean : Option α) (sd : α) :
    guard_random_normal S mean (some sd) = true ↔ sd ≤ lit 0 := by
  simp [guard_random_normal, h.lt_some, h.ofNat, not_lt]

theorem Rng.guard_iff_log_normal (h : IeeeCmp S lit) (mean : Option α) (sd : α) :
    guard_random_log_normal S mean (some sd) = true ↔ sd ≤ lit 0 := by
  simp [guard_random_log_normal, h.lt_some, h.ofNat, not_lt]

theorem Rng.guard_rejects_nan (h : IeeeCmp S lit) :
    guard_random_bernoulli S none = true ∧
    (∀ b, guard_random_uniform S none b = true) ∧ (∀ a, guard_random_uniform S a none = true) ∧
    (∀ m, guard_random_normal S m none = true) ∧ (∀ m, guard_random_log_normal S m none = true) := by
  simp [guard_random_bernoulli, guard_random_uniform, guard_random_normal, guard_random_log_normal,
    h.lt_nan_right, h.le_nan_left, h.le_nan_right]

/-- `Device::random_*` reject exactly: p ∉ [0,1]; upper < lower; sd ≤ 0 (on ordered parameters). -/
theorem Rng.guard_iff (h : IeeeCmp S lit) (x y : α) :
    (guard_random_bernoulli S (some x) = true ↔ ¬ (lit 0 ≤ x ∧ x ≤ lit 1)) ∧
    (guard_random_uniform S (some x) (some y) = true ↔ y < x) ∧
    (guard_random_normal S (some x) (some y) = true ↔ y ≤ lit 0) ∧
    (guard_random_log_normal S (some x) (some y) = true ↔ y ≤ lit 0) := by
  refine ⟨?_, Rng.guard_iff_uniform h x y, Rng.guard_iff_normal h _ y, Rng.guard_iff_log_normal h _ y⟩
  rw [Rng.guard_iff_bernoulli h x, not_and_or, not_le, not_le]

end guards

section fixup
variable {α : Type} [LinearOrder α] [SuccOrder α] {S : Sc α}

theorem Rng.uniform_fixup_value (h : SuccNext S) {lower upper raw : α} (hlu : lower < upper) (hr : lower ≤ raw) :
    fill_uniform_elem S lower upper raw = if raw = lower then upper else raw := by
  have hmax : ¬ IsMax lower := not_isMax_of_lt hlu
  simp only [fill_uniform_elem, h.lt, h.next_lt _ _ hlu, decide_eq_true_eq,
    Order.lt_succ_iff_of_not_isMax hmax]
  by_cases e : raw = lower
  · simp [e]
  · have : ¬ raw ≤ lower := fun hle => e (le_antisymm hle hr)
    simp [e, this]

theorem Rng.uniform_fixup (h : SuccNext S) {lower upper raw : α} (hlu : lower < upper)
    (hr : lower ≤ raw ∧ raw ≤ upper) :
    lower < fill_uniform_elem S lower upper raw ∧ fill_uniform_elem S lower upper raw ≤ upper := by
  rw [Rng.uniform_fixup_value h hlu hr.1]
  by_cases e : raw = lower
  · simp [e, hlu]
  · simp only [e, if_false]
    exact ⟨lt_of_le_of_ne hr.1 (Ne.symm e), hr.2⟩

theorem Rng.uniform_fixup_degenerate (h : SuccNext S) (a : α) :
    fill_uniform_elem S a a a = a := by
  simp [fill_uniform_elem, h.lt, h.next_eq]
end fixup

section bern
variable {α : Type} (S : Sc α)

theorem Rng.bernoulli_01 (p u : α) :
    sample S .bernoulli p p u = S.ofNat 0 ∨ sample S .bernoulli p p u = S.ofNat 1 := by
  simp only [sample, fillElem, fill_bernoulli_elem, stdDraw]
  by_cases c : S.lt u p = true <;> simp [c]

theorem Rng.bernoulli_tensor_01 (raws : List α) (sh : Shape) (p : α) (t : Tensor α)
    (ht : deviceRandom S raws .bernoulli sh p p = .ok t) :
    t.shape = sh ∧ ∀ v ∈ t.data, v = S.ofNat 0 ∨ v = S.ofNat 1 := by
  rw [deviceRandom_eq] at ht
  split at ht
  · cases ht
  · cases ht
    refine ⟨rfl, ?_⟩
    intro v hv
    simp only [fill, List.mem_map] at hv
    obtain ⟨u, _, rfl⟩ := hv
    exact Rng.bernoulli_01 S p u
end bern

section stream
variable {σ α : Type} (S : Sc α) (G : Source σ α)

theorem Rng.step_error_iff (st : σ) (r : Req α) :
    (step S G st r).2 = .error .error ↔ rejects S r.kind r.a r.b = true := by
  unfold step
  by_cases c : rejects S r.kind r.a r.b = true <;> simp [c, deviceRandom_eq, Primitiv.throwError]

theorem Rng.rejected_keeps_stream (st : σ) (r : Req α) (h : rejects S r.kind r.a r.b = true) :
    step S G st r = (st, .error .error) := by
  simp [step, h, Primitiv.throwError]

/-- `run` over a concatenation: the second batch of requests continues the stream
where the first left it, and the results come in the order of the requests -/
theorem Rng.stream_order (st : σ) (rs1 rs2 : List (Req α)) :
    run S G st (rs1 ++ rs2) =
      ((run S G (run S G st rs1).1 rs2).1, (run S G st rs1).2 ++ (run S G (run S G st rs1).1 rs2).2) := by
  induction rs1 generalizing st with
  | nil => simp [run]
  | cons r rs ih => simp [run, ih]
end stream

section drop
variable {α : Type}

theorem Drop.disabled_id (S : Sc α) (raws : List α) (x : Tensor α) (rate : α) :
    dropoutTensor S raws x rate false = .ok x := by
  simp [dropoutTensor, dropout, pure, Except.pure]

variable [Field α] [LinearOrder α] {S : Sc α}

theorem Drop.rate_one_zero (h : ExactArith S) (raws : List α) (x : Tensor α) :
    dropoutTensor S raws x 1 true = .ok ⟨x.shape, x.data.map (fun _ => 0)⟩ := by
  simp [dropoutTensor, dropout, tensorVar, h.eq, h.ofNat, h.narrow, h.mul, pure, Except.pure]

theorem Drop.scaling (h : ExactArith S) (raws : List α) (x y : Tensor α) (rate : α) (hr : rate ≠ 1)
    (hy : dropoutTensor S raws x rate true = .ok y) :
    y.shape = x.shape ∧
    y.data = List.zipWith (fun v u => if u < 1 - rate then v / (1 - rate) else 0) x.data (raws.take x.shape.size) := by
  simp only [dropoutTensor, dropout, tensorVar, h.eq, h.ofNat, h.narrow, h.mul, h.sub, h.div, Nat.cast_one,
    decide_eq_true_eq, hr, if_false, Bool.not_true, Bool.false_eq_true, deviceRandom_eq] at hy
  split at hy
  · cases hy
  · simp only [pure, Except.pure, bind, Except.bind, fill] at hy
    cases hy
    refine ⟨rfl, ?_⟩
    simp only [List.zipWith_map_left, List.zipWith_map_right]
    congr 1
    funext v u
    simp only [sample, fillElem, fill_bernoulli_elem, stdDraw, h.lt, h.ofNat, decide_eq_true_eq]
    by_cases c : u < 1 - rate <;> simp [c, div_eq_mul_inv, mul_comm]
end drop

section init
variable {α : Type} [Field α] [LinearOrder α] {S : Sc α}

theorem Init.constant_formula (S : Sc α) (raws : List α) (k : α) (s : Shape) :
    init_Constant S k s = .ok (.reset k) ∧
    runInit S raws (init_Constant S k s) s = .ok ⟨s, List.replicate s.size k⟩ := by
  simp [init_Constant, runInit, applyInit, pure, Except.pure, bind, Except.bind]

theorem Init.uniform_normal_formula (S : Sc α) (a b : α) (s : Shape) :
    init_Uniform S a b s = .ok (.uniform s a b) ∧ init_Normal S a b s = .ok (.normal s a b) := by
  simp [init_Uniform, init_Normal, pure, Except.pure]

theorem Init.identity_formula (S : Sc α) (s : Shape) :
    init_Identity S s = (if s.isMatrix = true ∧ s.get 0 = s.get 1 then .ok (.identity (s.get 0)) else .error .error) := by
  by_cases hm : s.isMatrix = true <;> by_cases he : s.get 0 = s.get 1 <;>
    simp [init_Identity, hm, he, Primitiv.throwError, pure, Except.pure]

theorem Init.xavier_uniform_formula (h : ExactArith S) (scale : α) (s : Shape) (hm : s.isMatrix = true)
    (hw : s.get 0 + s.get 1 < W) :
    init_XavierUniform S scale s =
      .ok (.uniform s (-(scale * S.sqrt (6 / ((s.get 0 + s.get 1 : Nat) : α))))
                      (scale * S.sqrt (6 / ((s.get 0 + s.get 1 : Nat) : α)))) := by
  simp [init_XavierUniform, hm, add32_of_lt hw, h.narrow, h.mul, h.div, h.ofNat, h.neg, pure, Except.pure]

theorem Init.xavier_normal_formula (h : ExactArith S) (scale : α) (s : Shape) (hm : s.isMatrix = true)
    (hw : s.get 0 + s.get 1 < W) :
    init_XavierNormal S scale s =
      .ok (.normal s 0 (scale * S.sqrt (2 / ((s.get 0 + s.get 1 : Nat) : α)))) := by
  simp [init_XavierNormal, hm, add32_of_lt hw, h.narrow, h.mul, h.div, h.ofNat, pure, Except.pure]

theorem Init.xavier_requires_matrix (S : Sc α) (scale : α) (s : Shape) (hm : s.isMatrix = false) :
    init_XavierUniform S scale s = .error .error ∧ init_XavierNormal S scale s = .error .error := by
  simp [init_XavierUniform, init_XavierNormal, hm, Primitiv.throwError]

theorem Init.xavier_uniform_conv2d_formula (h : ExactArith S) (scale : α) (s : Shape) (hd : s.depth ≤ 4)
    (hw : convFanIn s + convFanOut s < W) :
    init_XavierUniformConv2D S scale s =
      .ok (.uniform s (-(scale * S.sqrt (6 / ((convFanIn s + convFanOut s : Nat) : α))))
                      (scale * S.sqrt (6 / ((convFanIn s + convFanOut s : Nat) : α)))) := by
  have hd' : ¬ s.depth > 4 := by omega
  simp [init_XavierUniformConv2D, hd', conv_fans hw, h.narrow, h.mul, h.div, h.ofNat, h.neg, pure, Except.pure]

theorem Init.xavier_normal_conv2d_formula (h : ExactArith S) (scale : α) (s : Shape) (hd : s.depth ≤ 4)
    (hw : convFanIn s + convFanOut s < W) :
    init_XavierNormalConv2D S scale s =
      .ok (.normal s 0 (scale * S.sqrt (2 / ((convFanIn s + convFanOut s : Nat) : α)))) := by
  have hd' : ¬ s.depth > 4 := by omega
  simp [init_XavierNormalConv2D, hd', conv_fans hw, h.narrow, h.mul, h.div, h.ofNat, pure, Except.pure]

theorem Init.xavier_conv2d_requires_depth4 (S : Sc α) (scale : α) (s : Shape) (hd : 4 < s.depth) :
    init_XavierUniformConv2D S scale s = .error .error ∧ init_XavierNormalConv2D S scale s = .error .error := by
  simp [init_XavierUniformConv2D, init_XavierNormalConv2D, hd, Primitiv.throwError]

end init

/-- `Identity` ends in `Device::identity(n)`, which produces the n×n identity matrix. -/
theorem Init.identity_matrix {α : Type} (S : Sc α) (n : Nat) (t : Tensor α) (ht : deviceIdentity S n = .ok t) :
    0 < n ∧ Shape.new [n, n] 1 = .ok t.shape ∧ t.data.length = n * n ∧
    ∀ i j, i < n → j < n → t.data[i + n * j]? = some (if i = j then S.ofNat 1 else S.ofNat 0) :=
  deviceIdentity_spec S n t ht

/-- A row of `backend_calls` is (backend, distribution, callee, parameters of
`random_<distribution>_impl`, arguments of the call): in both backends the callee is
`fill_<distribution>` and its arguments are the parameters, in their order. -/
theorem Rng.backends_forward_params :
    backend_calls.map (fun r => (r.1, r.2.1)) =
      [("naive", "bernoulli"), ("naive", "uniform"), ("naive", "normal"), ("naive", "log_normal"),
       ("eigen", "bernoulli"), ("eigen", "uniform"), ("eigen", "normal"), ("eigen", "log_normal")] ∧
    backend_calls.all (fun r => r.2.2.1 == "fill_" ++ r.2.1 && r.2.2.2.1 == r.2.2.2.2) = true := by
  decide +kernel

theorem Rng.dist_objects :
    fill_bernoulli_dist = ("std::bernoulli_distribution", ["p"]) ∧
    fill_uniform_dist = ("std::uniform_real_distribution<float>", ["lower", "upper"]) ∧
    fill_normal_dist = ("std::normal_distribution<float>", ["mean", "sd"]) ∧
    fill_log_normal_dist = ("std::lognormal_distribution<float>", ["mean", "sd"]) :=
  ⟨rfl, rfl, rfl, rfl⟩

/-- `fill_normal` / `fill_log_normal` / `fill_bernoulli` store the draw of the distribution object unchanged. -/
theorem Rng.fill_stores_draw {α : Type} (S : Sc α) (a b d : α) :
    fill_bernoulli_elem S a d = d ∧ fill_normal_elem S a b d = d ∧ fill_log_normal_elem S a b d = d := by
  simp [fill_bernoulli_elem, fill_normal_elem, fill_log_normal_elem]

-- the instances come last, so that one that stops evaluating after a change of the sources
-- is not attributed to the theorems

example : IeeeCmp exIeee (fun n => (n : Int)) := by
  constructor <;> intros <;> (try rename_i a; cases a) <;> rfl

example : SuccNext exInt := by
  constructor
  · intros; rfl
  · intro a b h; simp [exInt, h, Order.succ_eq_add_one]
  · intro a; simp [exInt]

example : fill_uniform_elem exInt 0 3 0 = 3 ∧ fill_uniform_elem exInt 0 3 2 = 2 := by decide

example : ExactArith exRat := by constructor <;> intros <;> rfl

example : guard_random_bernoulli exIeee (some 2) = true ∧ guard_random_bernoulli exIeee (some 1) = false ∧
    guard_random_uniform exIeee (some 3) (some 3) = false ∧ guard_random_normal exIeee (some 0) (some 0) = true := by
  decide

example : (deviceIdentity exInt 2).toOption.map (·.data) = some [1, 0, 0, 1] := by decide

/-- `Drop.scaling` at rate 1/2 over ℚ: the kept element is doubled, the dropped one is 0 (draws 1/4 < 1/2 ≤ 3/4). -/
example : ∃ y, dropoutTensor exRat [1/4, 3/4] ⟨⟨[2], 1, 2⟩, [3, 5]⟩ (1/2) true = .ok y ∧ y.data = [6, 0] := by
  refine ⟨⟨⟨[2], 1, 2⟩, [6, 0]⟩, ?_, rfl⟩
  norm_num [dropoutTensor, dropout, tensorVar, exRat, deviceRandom, Device_random_bernoulli, guard_random_bernoulli,
    fill, sample, fillElem, fill_bernoulli_elem, stdDraw, Shape.size, mul32, pure, Except.pure, bind, Except.bind]

/-- the Conv2D fans of a 3×3 kernel with 2 input and 4 output channels: 18 and 36 -/
example : convFanIn ⟨[3, 3, 2, 4], 1, 72⟩ = 18 ∧ convFanOut ⟨[3, 3, 2, 4], 1, 72⟩ = 36 := by decide

end Primitiv.C17
