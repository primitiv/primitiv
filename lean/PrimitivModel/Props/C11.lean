import PrimitivModel.Model.Graph
import PrimitivModel.Lemmas.GraphSweep
import PrimitivModel.Lemmas.GraphLive
/-!
C11, the part about `Graph::backward`: "backward() releases intermediate gradients as it goes;
every buffer obtained from a device is released exactly once".

In the model (`Model/Graph.lean`, the definitions that the driver `drv_graph` runs against the real
`primitiv::Graph`) a node gradient that holds a tensor is `grad = some _` ("live"); `invalidate()`
is `grad := none`.  A gradient tensor is obtained from the device when a gradient becomes live (the
`ones` seed, the zero-fills) and released when it is invalidated.

Vocabulary (Lemmas/GraphSweep.lean, Lemmas/GraphLive.lean):
* `sweepTrace T k s`   the states after each completed iteration of `sweep T k s`, with the operator id
* `stepPoints T s k`   the states at the five program points of the iteration for operator `k`
* `sweepPoints T k s`  all program points of all iterations of `sweep T k s`, with the operator id
* `GradsBelow k s`     every live gradient belongs to an operator with id `< k`
* `OnlyAnc args t s`   every live gradient belongs to an ancestor of operator `t`
* `liveGrads s`        the number of live gradient tensors
-/
namespace Primitiv.C11
open Primitiv.Graph

variable {τ : Type}

/-! ## gradients are released as the sweep goes -/

/-- During `sweep T (k+1) s` (target operator `k`), after the iteration for operator `oid` no
gradient of an operator with id `≥ oid` is live — for every state in which no gradient of an operator
`> k` is live and arguments refer to smaller ids.  So the set of live node gradients only ever
contains operators below the sweep position. -/
theorem Graph.backward_releases (T : TOps τ) (k : Nat) (s : State τ)
    (hw : ArgsBelow s) (hg : GradsBelow (k + 1) s) :
    ∀ x ∈ sweepTrace T (k + 1) s, ∀ b : Addr, x.1 ≤ b.oid → x.2.gradAt b = none :=
  fun x hx => sweepTrace_gradsBelow T (k + 1) s hw hg x hx

/-- `exSquare` after the seed: two iterations, both complete -/
example : ArgsBelow (seed TInt exSquare ⟨1, 0⟩) ∧ GradsBelow 2 (seed TInt exSquare ⟨1, 0⟩) ∧
    (sweepTrace TInt 2 (seed TInt exSquare ⟨1, 0⟩)).map (·.1) = [1, 0] :=
  ⟨argsBelow_of_B (by decide), gradsBelow_seed TInt exSquare ⟨1, 0⟩ (allGradsInvalid_of_B (by decide)), by decide⟩

/-- The trace is the sweep: a successful `sweep T k s` completes exactly `k` iterations, the last one
for operator 0, and the state after it is the result. -/
theorem Graph.sweep_trace_complete (T : TOps τ) (k : Nat) (s s' : State τ)
    (hs : sweep T k s = (s', .ok ())) :
    (sweepTrace T k s).length = k ∧ (0 < k → (sweepTrace T k s).getLast? = some (0, s')) :=
  sweepTrace_complete T k s s' hs

example : ∃ s', sweep TInt 2 (seed TInt exSquare ⟨1, 0⟩) = (s', .ok ()) := ⟨_, rfl⟩

/-- The last program point of an iteration is the state that `backwardStep` returns. -/
theorem Graph.step_points_end (T : TOps τ) (s : State τ) (k : Nat) :
    (stepPoints T s k).getLast? = some (backwardStep T s k).1 :=
  stepPoints_last T s k

/-- At every program point of the sweep — on entry of an iteration, after either zero-fill, after the
operator's backward rule, after the invalidation, and also in an iteration that fails — every live
gradient belongs to an ancestor of the target `t` whose id is below the sweep position, or to the
operator being processed (which then is an ancestor too). -/
theorem Graph.live_gradients_bounded (T : TOps τ) (t k : Nat) (s : State τ)
    (hw : ArgsBelow s) (ha : OnlyAnc s.argsOf t s) (hg : GradsBelow k s) :
    ∀ x ∈ sweepPoints T k s, ∀ b : Addr, (x.2.gradAt b).isSome = true →
      Anc s.argsOf b.oid t ∧ (b.oid < x.1 ∨ b.oid = x.1) := by
  intro x hx b hb
  obtain ⟨h1, h2⟩ := sweepPoints_bounded T t _ k s rfl hw ha hg x hx b hb
  exact ⟨h1, Nat.lt_or_eq_of_le h2⟩

/-- `y = stop_gradient(p0) + p1`: four iterations, five program points each -/
example : let s0 := seed TInt (fwdPhase TInt (exBlocked TInt 3 10) ⟨3, 0⟩).1 ⟨3, 0⟩
    ArgsBelow s0 ∧ OnlyAnc s0.argsOf 3 s0 ∧ GradsBelow 4 s0 ∧
    (sweepPoints TInt 4 s0).map (·.1) = [3, 3, 3, 3, 3, 2, 2, 2, 2, 2, 1, 1, 1, 1, 1, 0, 0, 0, 0, 0] :=
  ⟨argsBelow_of_B (by decide), onlyAnc_seed TInt _ ⟨3, 0⟩ (allGradsInvalid_of_B (by decide)),
   gradsBelow_seed TInt _ ⟨3, 0⟩ (allGradsInvalid_of_B (by decide)), by decide⟩

/-- The hypotheses of the two theorems hold for the sweep that `backward` runs (after its forward
phase and the seed), whenever all node gradients were invalid before. -/
theorem Graph.backward_sweep_start (T : TOps τ) (s : State τ) (a : Addr)
    (hg : AllGradsInvalid s) (hw : ArgsBelow s) :
    let s0 := seed T (fwdPhase T s a).1 a
    ArgsBelow s0 ∧ GradsBelow (a.oid + 1) s0 ∧ OnlyAnc s0.argsOf a.oid s0 := by
  have hf := fwdPhase_fwdFrame T s a
  have hg1 := hf.allGradsInvalid hg
  exact ⟨view_argsBelow (seed_sameFrame T _ a).skel (view_argsBelow hf.gskel hw),
    gradsBelow_seed T _ a hg1, onlyAnc_seed T _ a hg1⟩

example : AllGradsInvalid exSquare ∧ ArgsBelow exSquare :=
  ⟨allGradsInvalid_of_B (by decide), argsBelow_of_B (by decide)⟩

/-! ## no gradient tensor is leaked -/

/-- The number of live gradient tensors is 0 exactly when all node gradients are invalid. -/
theorem Graph.live_count_zero_iff (s : State τ) : liveGrads s = 0 ↔ AllGradsInvalid s :=
  liveGrads_eq_zero s

/-- A successful `backward` that starts without live gradient tensors ends without: the number of
live gradient tensors after it equals the number before (every tensor obtained for a gradient
during the pass has been released). -/
theorem Graph.no_gradient_leak (T : TOps τ) (s s' : State τ) (a : Addr)
    (hw : ArgsBelow s) (hg : liveGrads s = 0) (hb : backward T s a = (s', .ok ())) :
    liveGrads s' = liveGrads s := by
  rw [hg, liveGrads_eq_zero]
  exact backward_allGradsInvalid T s s' a ((liveGrads_eq_zero s).mp hg) hw hb

example : ArgsBelow exSquare ∧ liveGrads exSquare = 0 ∧ ∃ s', backward TInt exSquare ⟨1, 0⟩ = (s', .ok ()) :=
  ⟨argsBelow_of_B (by decide), by decide, _, rfl⟩

/-- … and as an invariant: from a new graph, after any history of `add_operator`, `forward`,
`backward`, parameter updates, gradient resets and fault schedules in which every `backward`
completed (and no `CHECK_NODE` aborted), no gradient tensor is live. -/
theorem Graph.no_gradient_leak_history (T : TOps τ) (params : Params τ) (sample : Nat → Nat → τ)
    (hist : List (Cmd τ)) (s' : State τ) (hr : runHist T (emptyGraph params sample) hist = some s') :
    liveGrads s' = 0 :=
  (liveGrads_eq_zero s').mpr (runHist_ginv T hist _ s' (emptyGraph_ginv params sample) hr).1

example : ∃ s', runHist TInt (emptyGraph { value := fun _ => 3, grad := fun _ => 10 } fun _ _ => 0)
    [.addOp (.param 0) [] [1], .addOp (.op mulSem) [⟨0, 0⟩, ⟨0, 0⟩] [1], .backward ⟨1, 0⟩,
     .backward ⟨0, 0⟩, .setGrad 0 0, .backward ⟨1, 0⟩] = some s' :=
  ⟨_, rfl⟩

end Primitiv.C11
