import PrimitivModel.Analysis.Scalar
import Mathlib.Algebra.Order.BigOperators.Group.List
import PrimitivModel.Lemmas.ArithIndex
import PrimitivModel.Props.C01.Arith
/-
C02 (forward values equal the documented function), arithmetic kernels.

* `matmul_spec`: the loop nest leaves `Σ_j a[i,j]·b[j,k]` in cell (i,k) of sample `bn`, for every batch
  pattern (a zero stride shares the operand between the samples).
* `conv2d_spec`: cell (bn, y_c, y_x, y_y) holds the sum over (x_c, w_x, w_y) of
  `xpad[y·stride − padding + w·dilation] · w[K−1−w]` — the kernel is read flipped (true convolution),
  positions outside x contribute nothing (zero padding), stride and dilation as documented.
* `max_pool2d_spec`: every cell holds the maximum of `lowest()` and of the window cells inside x
  (padding counts as −∞; a window entirely inside the padding yields `lowest()`).
* stability over ℝ: `softplus_branches`, `sigmoid_tanh_form`, `logsumexp_fold` — the stabilised forms equal
  the definitions and every `exp` argument is ≤ 0.
* `convPos32_wrap_witness`: the window position computed in 32 bits (`convPos32`, the code without
  patches/fix-conv-pool-window-wrap) is wrong for a padding close to 2^32.

An `example` directly after a theorem shows that its hypotheses can be met.
-/
namespace Primitiv.C02.Arith
open Primitiv Primitiv.Arith Primitiv.Gen.Elementwise Primitiv.Analysis Finset

section matmul
variable {α : Type} [CommRing α]

theorem matmul_outer_nodup (D : MatDims) :
    ((range3 D.bs D.d3 D.d1).map fun s => s.1 * (D.d3 * D.d1) + (s.2.1 * D.d1 + s.2.2)).Nodup := by
  rw [range3_addr]; exact List.nodup_range

/-- cell (i, k) of sample `bn` of `matmul_fw(a, b)` is `Σ_j a[i,j]·b[j,k]` (column-major: `a[i + j·d1]`,
`b[j + k·d2]`), with `skipA, skipB ∈ {0, full}` selecting the batch pattern -/
theorem matmul_spec (D : MatDims) (a b : Buf α) (junk : α) {bn k i : Nat}
    (hbn : bn < D.bs) (hk : k < D.d3) (hi : i < D.d1) :
    matmulFw 0 D a b junk (bn * (D.d3 * D.d1) + (k * D.d1 + i))
      = ∑ j ∈ range D.d2, a (bn * D.skipA + (j * D.d1 + i)) * b (bn * D.skipB + (k * D.d2 + j)) := by
  have hlt : bn * (D.d3 * D.d1) + (k * D.d1 + i) < D.bs * (D.d3 * D.d1) := idx_lt hbn (idx_lt hk hi)
  -- the iterations that reach cell (bn, k, i) are the `d2` iterations of its own `j` loop
  have hg : D.its.filter (fun t => D.ya t = bn * (D.d3 * D.d1) + (k * D.d1 + i))
      = (List.range D.d2).map fun j => (⟨bn, k, i, j⟩ : MatIt) :=
    filter_flatMap_of_nodup (range3 D.bs D.d3 D.d1)
      (fun s => (List.range D.d2).map fun j => (⟨s.1, s.2.1, s.2.2, j⟩ : MatIt))
      (fun s => s.1 * (D.d3 * D.d1) + (s.2.1 * D.d1 + s.2.2)) D.ya
      (fun s _ t ht => by obtain ⟨j, _, rfl⟩ := List.mem_map.mp ht; rfl)
      (matmul_outer_nodup D) (s0 := (bn, k, i)) (mem_range3.mpr ⟨hbn, hk, hi⟩)
  unfold matmulFw
  rw [if_pos hlt, scatterAddAt_eq, zero_add, hg, List.map_map]
  rfl
example : (0 : Nat) < 2 ∧ (1 : Nat) < 3 := by decide

end matmul

section conv2d
variable {α : Type} [CommRing α]

/-- the flat address of an output cell -/
def convCell (D : ConvDims) (s : Nat × Nat × Nat × Nat) : Nat :=
  s.1 * D.yShift + ((s.2.1 * D.yw + s.2.2.1) * D.yh + s.2.2.2)

theorem conv_outer_nodup (D : ConvDims) (hY : D.yShift = D.yc * (D.yw * D.yh)) :
    (D.outer.map (convCell D)).Nodup :=
  (D.outer_addr hY).symm ▸ List.nodup_range

/-- `conv2d_fw(x, w)`: cell (bn, y_c, y_x, y_y) is the sum over the window cells (x_c, w_x, w_y) whose position
`y·stride − padding + w·dilation` lies inside x of `x[pos] · w[W−1−w_x, H−1−w_y]`. -/
theorem conv2d_spec (D : ConvDims) (x w : Buf α) (junk : α) (hY : D.yShift = D.yc * (D.yw * D.yh))
    {s : Nat × Nat × Nat × Nat} (hs : s ∈ D.outer) :
    conv2dFw 0 D x w junk (convCell D s)
      = ((range3 D.xc D.ww D.wh).map fun r =>
          let t : ConvIt := ⟨s.1, s.2.1, s.2.2.1, s.2.2.2, r.1, r.2.1, r.2.2⟩
          if D.valid t then x (D.xa t) * w (D.wa t) else 0).sum := by
  -- the output loops address exactly the cells below `bs·yShift`
  have hlt : convCell D s < D.bs * D.yShift :=
    List.mem_range.mp (D.outer_addr hY ▸ List.mem_map_of_mem (f := convCell D) hs)
  have hits : D.its = D.outer.flatMap fun s => (D.inner s).filter D.valid := by
    unfold ConvDims.its ConvDims.allIts
    rw [List.filter_flatMap]
  -- the iterations that reach the cell of `s` are the valid ones of its own window loops
  have hg : D.its.filter (fun t => D.ya t = convCell D s) = (D.inner s).filter D.valid :=
    hits ▸ filter_flatMap_of_nodup D.outer (fun s => (D.inner s).filter D.valid) (convCell D) D.ya
      (fun u _ t ht => by obtain ⟨r, _, rfl⟩ := List.mem_map.mp (List.mem_filter.mp ht).1; rfl)
      (conv_outer_nodup D hY) hs
  unfold conv2dFw
  rw [if_pos hlt, scatterAddAt_eq, zero_add, hg, list_sum_filter_map]
  unfold ConvDims.inner
  rw [List.map_map]
  rfl

end conv2d

/-- The window position computed in 32 bits (`convPos32`) is wrong for a padding close to 2^32:
`-padding + 0·stride + 0·dilation` with padding = 2^32 − 1 is the in-range position 1, the true position is
−(2^32 − 1), deep inside the padding. -/
theorem convPos32_wrap_witness :
    convPos32 4294967295 0 4294967295 0 1 = 1 ∧ convPos 4294967295 0 4294967295 0 1 = -4294967295 := by
  decide

/-- one instance on which the two computations agree (small padding and position; no general statement of
where they agree is proved) -/
example : convPos32 2 3 2 1 1 = convPos 2 3 2 1 1 := by decide

section conv2d_textbook
variable {α : Type} [CommRing α]

/-- the iteration of output cell `s` at input channel `c` and window cell `(wx, wy)` -/
def convIt (s : Nat × Nat × Nat × Nat) (c wx wy : Nat) : ConvIt := ⟨s.1, s.2.1, s.2.2.1, s.2.2.2, c, wx, wy⟩

/-- `conv2d_spec` in the textbook form (the window loops reflected, `k = K−1−w`):
`y[i0,i1,o] = Σ_{c,k1,k0} xpad[i0·s0 + (K0−1−k0)·d0 − p0, i1·s1 + (K1−1−k1)·d1 − p1, c] · w[k0,k1,c,o]` —
the kernel element `w[k]` meets the input at the mirrored offset `K−1−k`: a true convolution, not a correlation.
(`D.valid` is "the position lies inside x", `D.xa` its column-major address.) -/
theorem conv2d_spec_textbook (D : ConvDims) (x w : Buf α) (junk : α) (hY : D.yShift = D.yc * (D.yw * D.yh))
    {s : Nat × Nat × Nat × Nat} (hs : s ∈ D.outer) :
    conv2dFw 0 D x w junk (convCell D s)
      = ∑ c ∈ range D.xc, ∑ k1 ∈ range D.ww, ∑ k0 ∈ range D.wh,
          if D.valid (convIt s c (D.ww - 1 - k1) (D.wh - 1 - k0)) then
            x (D.xa (convIt s c (D.ww - 1 - k1) (D.wh - 1 - k0)))
              * w (s.1 * D.wShift + (((s.2.1 * D.xc + c) * D.ww + k1) * D.wh + k0))
          else 0 := by
  rw [conv2d_spec D x w junk hY hs, sum_range3]
  apply Finset.sum_congr rfl
  intro c _
  refine (Finset.sum_range_reflect _ _).symm.trans ?_
  apply Finset.sum_congr rfl
  intro k1 hk1
  refine (Finset.sum_range_reflect _ _).symm.trans ?_
  apply Finset.sum_congr rfl
  intro k0 hk0
  have e1 : D.ww - 1 - (D.ww - 1 - k1) = k1 := Nat.sub_sub_self (Nat.le_sub_one_of_lt (Finset.mem_range.mp hk1))
  have e0 : D.wh - 1 - (D.wh - 1 - k0) = k0 := Nat.sub_sub_self (Nat.le_sub_one_of_lt (Finset.mem_range.mp hk0))
  simp only [convIt, ConvDims.wa, e1, e0]
  rfl
-- `ConvDims` in field order: xh xw xc, wh ww, yh yw yc, bs, xShift wShift yShift, p0 p1, s0 s1, d0 d1.
-- A 3×3×1 input and a 2×2 kernel give 2×2×1 output cells, `yShift = 4 = yc·(yw·yh)` as `hY` asks.
example : (⟨3, 3, 1, 2, 2, 2, 2, 1, 1, 0, 0, 4, 0, 0, 1, 1, 1, 1⟩ : ConvDims).outer.length = 4 := by decide

end conv2d_textbook

section pool
variable {α : Type} [LinearOrder α]

theorem pool_outer_nodup (D : PoolDims) : (D.outer.map D.ya).Nodup :=
  D.outer_addr.symm ▸ List.nodup_range

/-- every output cell holds the running maximum of its window -/
theorem max_pool2d_cell (lowest : α) (D : PoolDims) (x : Buf α) (junk : α) {t : Nat × Nat × Nat} (ht : t ∈ D.outer) :
    maxPoolFw lowest D x junk (D.ya t)
      = windowMax lowest ((D.window t.2.1 t.2.2).map fun a => x (D.xbase t + a)) := by
  unfold maxPoolFw
  exact writeAt_of_nodup D.outer D.ya _ junk (pool_outer_nodup D) ht

/-- `max_pool2d_fw`: the cell is ≥ `lowest()` and ≥ every window cell inside x, and it is one of them
(all-padding window ⇒ `lowest()`) -/
theorem max_pool2d_spec (lowest : α) (D : PoolDims) (x : Buf α) (junk : α) {t : Nat × Nat × Nat} (ht : t ∈ D.outer) :
    let y := maxPoolFw lowest D x junk (D.ya t)
    lowest ≤ y ∧ (∀ a ∈ D.window t.2.1 t.2.2, x (D.xbase t + a) ≤ y) ∧
      (y = lowest ∨ ∃ a ∈ D.window t.2.1 t.2.2, y = x (D.xbase t + a)) := by
  intro y
  have hy : y = windowMax lowest ((D.window t.2.1 t.2.2).map fun a => x (D.xbase t + a)) :=
    max_pool2d_cell lowest D x junk ht
  obtain ⟨h1, h2, h3⟩ := windowMax_spec lowest ((D.window t.2.1 t.2.2).map fun a => x (D.xbase t + a))
  rw [hy]
  refine ⟨h1, fun a ha => h2 _ (List.mem_map.mpr ⟨a, ha, rfl⟩), ?_⟩
  rcases h3 with h3 | h3
  · exact Or.inl h3
  · obtain ⟨a, ha, hv⟩ := List.mem_map.mp h3
    exact Or.inr ⟨a, ha, hv.symm⟩

/-- a window that lies entirely in the padding yields `lowest()` -/
theorem max_pool2d_all_padding (lowest : α) (D : PoolDims) (x : Buf α) (junk : α) {t : Nat × Nat × Nat}
    (ht : t ∈ D.outer) (hw : D.window t.2.1 t.2.2 = []) : maxPoolFw lowest D x junk (D.ya t) = lowest := by
  rw [max_pool2d_cell lowest D x junk ht, hw]
  rfl
example : (⟨1, 1, 4, 4, 1, 2, 2, 2, 2, 1, 1⟩ : PoolDims).window 0 0 = [] := by decide

end pool

/-- softplus: both branches equal `log(1 + e^x)`, and the branch that is taken calls `exp` with an argument ≤ 0 -/
theorem softplus_branches (x : ℝ) :
    naive_softplus_fw realFns x = Real.log (1 + Real.exp x) ∧
    eigen_softplus_fw realFns x = Real.log (1 + Real.exp x) ∧
    (x > 0 → naive_softplus_fw realFns x = x + Real.log (1 + Real.exp (-x)) ∧ -x ≤ 0) ∧
    (¬ x > 0 → naive_softplus_fw realFns x = Real.log (1 + Real.exp x) ∧ x ≤ 0) := by
  have h1 : naive_softplus_fw realFns x = softplus x := congrFun C01.Arith.Elementwise.softplus_fw_eq x
  refine ⟨h1, ?_, ?_, ?_⟩
  · rw [← C08.Arith.Elementwise.naive_eq_eigen_softplus_fw]; exact h1
  · intro hx
    refine ⟨?_, by linarith⟩
    simp only [naive_softplus_fw, lit_zero, lit_one, fns_exp, fns_log, if_pos hx]
  · intro hx
    exact ⟨h1, not_lt.mp hx⟩

/-- sigmoid: the library's `.5 + .5·tanh(.5·x)` is the logistic function `1 / (1 + e^{−x})`; no `exp` is evaluated
and the value stays in (0, 1) -/
theorem sigmoid_tanh_form (x : ℝ) :
    naive_sigmoid_fw realFns x = 1 / (1 + Real.exp (-x)) ∧ eigen_sigmoid_fw realFns x = 1 / (1 + Real.exp (-x)) ∧
    0 < naive_sigmoid_fw realFns x ∧ naive_sigmoid_fw realFns x < 1 := by
  have h1 : naive_sigmoid_fw realFns x = sigmoidT x := congrFun C01.Arith.Elementwise.sigmoid_fw_eq x
  have h2 := sigmoidT_eq_inv x
  have he : 0 < Real.exp (-x) := Real.exp_pos _
  refine ⟨h1.trans h2, ?_, ?_, ?_⟩
  · rw [← C08.Arith.Elementwise.naive_eq_eigen_sigmoid_fw]; exact h1.trans h2
  · rw [h1, h2]; positivity
  · rw [h1, h2, div_lt_one (by positivity)]; linarith

/-- one step of the pairwise recurrence adds one term under the logarithm -/
theorem lseStep_eq {S : ℝ} (hS : 0 < S) (a : ℝ) :
    lseStep realFns (Real.log S) a = Real.log (S + Real.exp a) := by
  have ha : 0 < Real.exp a := Real.exp_pos a
  unfold lseStep
  simp only [lit_one, fns_exp, fns_log]
  split_ifs
  · rw [Real.exp_sub, Real.exp_log hS]
    have : (1 + Real.exp a / S) = (S + Real.exp a) / S := by rw [add_div, div_self hS.ne']
    rw [this, Real.log_div (by positivity) hS.ne']
    ring
  · rw [Real.exp_sub, Real.exp_log hS]
    have : (1 + S / Real.exp a) = (S + Real.exp a) / Real.exp a := by rw [add_div, div_self ha.ne', add_comm]
    rw [this, Real.log_div (by positivity) ha.ne', Real.log_exp]
    ring

/-- in either branch of a step the argument of `exp` is ≤ 0 -/
theorem lseStep_exp_arg_nonpos (tmp arg : ℝ) : (tmp > arg → arg - tmp ≤ 0) ∧ (¬ tmp > arg → tmp - arg ≤ 0) :=
  ⟨fun h => by linarith, fun h => by linarith [not_lt.mp h]⟩

/-- logsumexp: the pairwise recurrence over the values along the axis is `log Σ_i e^{x_i}` -/
theorem logsumexp_fold (first : ℝ) (rest : List ℝ) :
    lseFold realFns first rest = Real.log (Real.exp first + (rest.map Real.exp).sum) := by
  unfold lseFold
  have key : ∀ (l : List ℝ) (S : ℝ), 0 < S →
      l.foldl (lseStep realFns) (Real.log S) = Real.log (S + (l.map Real.exp).sum) := by
    intro l
    induction l with
    | nil => intro S _; simp
    | cons a tl ih =>
      intro S hS
      rw [List.foldl_cons, lseStep_eq hS, ih _ (by positivity), List.map_cons, List.sum_cons, add_assoc]
  have := key rest (Real.exp first) (Real.exp_pos _)
  rwa [Real.log_exp] at this

/-- the result of the recurrence lies between `max x_i` and `max x_i + log n` (`n = rest.length + 1` values;
`m` is their maximum): no overflow for finite inputs.  (Every intermediate value is such a result, of a
prefix; only the final one is stated.) -/
theorem logsumexp_bounds (first : ℝ) (rest : List ℝ) (m : ℝ) (hle : first ≤ m ∧ ∀ v ∈ rest, v ≤ m)
    (hmax : first = m ∨ m ∈ rest) :
    m ≤ lseFold realFns first rest ∧ lseFold realFns first rest ≤ m + Real.log (rest.length + 1) := by
  rw [logsumexp_fold]
  have hnn : ∀ v ∈ rest.map Real.exp, 0 ≤ v := by
    intro v hv
    obtain ⟨u, _, rfl⟩ := List.mem_map.mp hv
    exact (Real.exp_pos u).le
  have hS : 0 < Real.exp first + (rest.map Real.exp).sum :=
    add_pos_of_pos_of_nonneg (Real.exp_pos first) (List.sum_nonneg hnn)
  constructor
  · -- e^m is one of the terms
    rw [Real.le_log_iff_exp_le hS]
    rcases hmax with h | h
    · rw [h]; exact le_add_of_nonneg_right (List.sum_nonneg hnn)
    · exact (List.single_le_sum hnn _ (List.mem_map_of_mem h)).trans
        (le_add_of_nonneg_left (Real.exp_pos first).le)
  · -- every term is at most e^m
    have hub : (rest.map Real.exp).sum ≤ rest.length * Real.exp m := by
      have h := List.sum_le_card_nsmul (rest.map Real.exp) (Real.exp m) (by
        intro v hv
        obtain ⟨u, hu, rfl⟩ := List.mem_map.mp hv
        exact Real.exp_le_exp.mpr (hle.2 u hu))
      rwa [List.length_map, nsmul_eq_mul] at h
    have h1 : Real.exp first ≤ Real.exp m := Real.exp_le_exp.mpr hle.1
    rw [Real.log_le_iff_le_exp hS, Real.exp_add, Real.exp_log (by positivity), mul_comm, add_one_mul]
    linarith
example : ((1 : ℝ) ≤ 2 ∧ ∀ v ∈ [(2 : ℝ), 0], v ≤ 2) ∧ ((1 : ℝ) = 2 ∨ (2 : ℝ) ∈ [(2 : ℝ), 0]) := by
  refine ⟨⟨by norm_num, ?_⟩, Or.inr (by simp)⟩
  intro v hv
  simp at hv
  rcases hv with rfl | rfl <;> norm_num

end Primitiv.C02.Arith
