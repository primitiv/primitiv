import PrimitivModel.Lemmas.MovePermute
import PrimitivModel.Lemmas.MoveEntry
import PrimitivModel.Lemmas.MoveSpec
/-
C02 — forward values equal the documented function, for the data-movement,
reduction and selection kernels: for every well-formed operand shape (depth
0..8, size-1 axes anywhere), every axis argument the entry point accepts (an
axis at or beyond the depth is an axis of size 1; where the code rejects an
axis ≥ 8 is part of each statement: `dim < 8` appears as a consequence of
acceptance exactly for pick, sum, max, min, broadcast, concat, and not for
slice, flip, argmax, argmin) and every minibatch combination, the result of the
model's entry point, read through the column-major/minibatch-last layout
(`Spec.Move.at4`), is the specification of Spec/KernelsMove.lean applied to
the operands read the same way.  `L = lo s dim`, `U = up s dim` are the numbers
of elements below and above the axis.
-/
namespace Primitiv.C02.Move
open Primitiv Primitiv.Move Primitiv.MoveShape Primitiv.Spec.Move Primitiv.View3

theorem cb_lt {U B c b : Nat} (hc : c < U) (hb : b < B) : c + U * b < U * B := lt_mul_of_lt hc hb

/-- `slice(x, dim, lower, upper)`, any `dim` (also ≥ 8: then `lower = 0`, `upper = 1`) -/
theorem Fwd.slice_spec {α} {x y : Tensor α} {dim lower upper : Nat} {raw : Nat → α} (hx : WF x.shape)
    (h : sliceFw x dim lower upper raw = .ok y) :
    lower < upper ∧ upper ≤ x.shape.get dim ∧ y.shape.batch = x.shape.batch ∧
    (∀ i, y.shape.get i = if i = dim then upper - lower else x.shape.get i) ∧
    ∀ a k c b, a < lo x.shape dim → k < upper - lower → c < up x.shape dim → b < x.shape.batch →
      at4 (lo x.shape dim) (upper - lower) (up x.shape dim) y.data a k c b =
        slice (at4 (lo x.shape dim) (x.shape.get dim) (up x.shape dim) x.data) lower a k c b := by
  obtain ⟨_, ys, m, hF, _, _, rfl⟩ := fw_inv h
  obtain ⟨hl, hu, _, hb, hg, rfl, _, _⟩ := Front.sliceFw_plan hx hF
  refine ⟨hl, hu, hb, hg, ?_⟩
  intro a k c b ha hk hc hb'
  simp only [at4_eq, slice]
  rw [seqWrite_apply (fun _ => rfl), sliceFw_idx _ ha hk]
  exact Nat.lt_of_lt_of_eq (comp3_lt ha hk (cb_lt hc hb')) (Nat.mul_comm _ _)

def values {α} (r : R (Tensor α)) : Option (List Nat × Nat × List α) :=
  match r with
  | .ok y => some (y.shape.dims, y.shape.batch, (List.range y.shape.size).map y.data)
  | .error _ => none

example : values (sliceFw (α := Int) ⟨⟨[3, 2], 2, 6⟩, fun i => i, .here⟩ 0 1 3 (fun _ => 0)) =
    some ([2, 2], 2, [1, 2, 4, 5, 7, 8, 10, 11]) := by decide

/-- `flip(x, dim)`, any `dim` -/
theorem Fwd.flip_spec {α} {x y : Tensor α} {dim : Nat} {raw : Nat → α} (hx : WF x.shape)
    (h : flipFw x dim raw = .ok y) :
    y.shape = x.shape ∧
    ∀ a k c b, a < lo x.shape dim → k < x.shape.get dim → c < up x.shape dim → b < x.shape.batch →
      at4 (lo x.shape dim) (x.shape.get dim) (up x.shape dim) y.data a k c b =
        Spec.Move.flip (at4 (lo x.shape dim) (x.shape.get dim) (up x.shape dim) x.data) (x.shape.get dim) a k c b := by
  obtain ⟨_, ys, m, hF, _, _, rfl⟩ := fw_inv h
  obtain ⟨rfl, rfl, _⟩ := Front.flipFw_plan hx hF
  refine ⟨rfl, ?_⟩
  intro a k c b ha hk hc hb'
  simp only [at4_eq, Spec.Move.flip]
  have ⟨h1, h2, h3⟩ := flip_step (L := lo x.shape dim) (n := x.shape.get dim) (R := up x.shape dim * x.shape.batch) ha hk (cb_lt hc hb')
  rw [← h2, scatterSet_of_once flip_writes.2 _ _ h1, h3]
  congr 2; omega

/-- `broadcast(x, dim, size)`; `dim ≥ 8` is rejected -/
theorem Fwd.broadcast_spec {α} {x y : Tensor α} {dim size : Nat} {raw : Nat → α} (hx : WF x.shape)
    (h : broadcastFw x dim size raw = .ok y) :
    dim < 8 ∧ x.shape.get dim = 1 ∧ 0 < size ∧ y.shape.batch = x.shape.batch ∧
    (∀ i, y.shape.get i = if i = dim then size else x.shape.get i) ∧
    ∀ a k c b, a < lo x.shape dim → k < size → c < up x.shape dim → b < x.shape.batch →
      at4 (lo x.shape dim) size (up x.shape dim) y.data a k c b =
        broadcast (at4 (lo x.shape dim) 1 (up x.shape dim) x.data) a k c b := by
  obtain ⟨_, ys, m, hF, _, _, rfl⟩ := fw_inv h
  obtain ⟨h8, h1, hs, _, hb, hg, rfl, _, _⟩ := Front.broadcastFw_plan hx hF
  refine ⟨h8, h1, hs, hb, hg, ?_⟩
  intro a k c b ha hk hc hb'
  simp only [at4_eq, broadcast]
  have ⟨s1, s2, s3⟩ := broadcast_step (L := lo x.shape dim) (size := size) (R := up x.shape dim * x.shape.batch) ha hk (cb_lt hc hb')
  rw [← s2, scatterSet_of_once broadcast_writes.2 _ _ s1, s3, comp3_one]

theorem reduce_view {α} {x y : Tensor α} {dim : Nat} {f : (Nat → α) → (Nat → Nat) → Nat → α}
    (hx : WF x.shape)
    (h : (do checkDevice x; let (ys, r) ← Front.reduceFw x.shape dim; runReduce r x ys f) = .ok y) :
    dim < 8 ∧ y.shape.batch = x.shape.batch ∧ (∀ i, y.shape.get i = if i = dim then 1 else x.shape.get i) ∧
    ∀ a c b, a < lo x.shape dim → c < up x.shape dim → b < x.shape.batch →
      at4 (lo x.shape dim) 1 (up x.shape dim) y.data a 0 c b =
        f x.data (fun k => comp3 (lo x.shape dim) (x.shape.get dim) a k (c + up x.shape dim * b)) (x.shape.get dim) := by
  obtain ⟨_, h⟩ := guarded_ok (xs := [x]).mp h
  obtain ⟨⟨ys, r⟩, hF, h⟩ := bind_ok.mp h
  obtain ⟨_, _, rfl⟩ := runReduce_inv h
  obtain ⟨h8, _, hb, hg, rfl, _, _⟩ := Front.reduceFw_plan hx hF
  refine ⟨h8, hb, hg, fun a c b ha _ _ => ?_⟩
  simp only [at4_eq, comp3_one, axisReduce]
  congr 1
  funext k
  exact axisOff_at ha

/-- `sum(x, dim)`; `dim ≥ 8` is rejected -/
theorem Fwd.sum_spec {α} [Add α] [Zero α] {x y : Tensor α} {dim : Nat} (hx : WF x.shape) (h : sumFw x dim = .ok y) :
    dim < 8 ∧ y.shape.batch = x.shape.batch ∧ (∀ i, y.shape.get i = if i = dim then 1 else x.shape.get i) ∧
    ∀ a c b, a < lo x.shape dim → c < up x.shape dim → b < x.shape.batch →
      at4 (lo x.shape dim) 1 (up x.shape dim) y.data a 0 c b =
        sum (at4 (lo x.shape dim) (x.shape.get dim) (up x.shape dim) x.data) (x.shape.get dim) a 0 c b := by
  obtain ⟨h8, hb, hg, hv⟩ := reduce_view hx h
  refine ⟨h8, hb, hg, fun a c b ha hc hb' => ?_⟩
  rw [hv a c b ha hc hb', sumLoop_eq_sumN]; rfl

/-- `max(x, dim)`; `dim ≥ 8` is rejected -/
theorem Fwd.max_spec {α} [LinearOrder α] {x y : Tensor α} {dim : Nat} (hx : WF x.shape) (h : maxFw x dim = .ok y) :
    dim < 8 ∧ y.shape.batch = x.shape.batch ∧ (∀ i, y.shape.get i = if i = dim then 1 else x.shape.get i) ∧
    ∀ a c b, a < lo x.shape dim → c < up x.shape dim → b < x.shape.batch →
      IsMax (fun k => at4 (lo x.shape dim) (x.shape.get dim) (up x.shape dim) x.data a k c b) (x.shape.get dim)
        (at4 (lo x.shape dim) 1 (up x.shape dim) y.data a 0 c b) := by
  obtain ⟨h8, hb, hg, hv⟩ := reduce_view hx h
  refine ⟨h8, hb, hg, fun a c b ha hc hb' => ?_⟩
  rw [hv a c b ha hc hb']
  exact maxLoop_isMax x.data _ (hx.pos dim)

/-- `min(x, dim)`; `dim ≥ 8` is rejected -/
theorem Fwd.min_spec {α} [LinearOrder α] {x y : Tensor α} {dim : Nat} (hx : WF x.shape) (h : minFw x dim = .ok y) :
    dim < 8 ∧ y.shape.batch = x.shape.batch ∧ (∀ i, y.shape.get i = if i = dim then 1 else x.shape.get i) ∧
    ∀ a c b, a < lo x.shape dim → c < up x.shape dim → b < x.shape.batch →
      IsMin (fun k => at4 (lo x.shape dim) (x.shape.get dim) (up x.shape dim) x.data a k c b) (x.shape.get dim)
        (at4 (lo x.shape dim) 1 (up x.shape dim) y.data a 0 c b) := by
  obtain ⟨h8, hb, hg, hv⟩ := reduce_view hx h
  refine ⟨h8, hb, hg, fun a c b ha hc hb' => ?_⟩
  rw [hv a c b ha hc hb']
  exact minLoop_isMin x.data _ (hx.pos dim)

/-- `pick(x, ids, dim)`; `dim ≥ 8` is rejected; minibatch broadcasting between `x` and `ids` -/
theorem Fwd.pick_spec {α} {x y : Tensor α} {ids : List Nat} {dim : Nat} {raw : Nat → α} (hx : WF x.shape)
    (hlen : ids.length < W) (h : pickFw x ids dim raw = .ok y) :
    dim < 8 ∧ 0 < ids.length ∧ (x.shape.batch = ids.length ∨ x.shape.batch = 1 ∨ ids.length = 1) ∧
    (∀ i ∈ ids, i < x.shape.get dim) ∧ y.shape.batch = max x.shape.batch ids.length ∧
    (∀ i, y.shape.get i = if i = dim then 1 else x.shape.get i) ∧
    ∀ a c b, a < lo x.shape dim → c < up x.shape dim → b < max x.shape.batch ids.length →
      at4 (lo x.shape dim) 1 (up x.shape dim) y.data a 0 c b =
        pick (at4 (lo x.shape dim) (x.shape.get dim) (up x.shape dim) x.data) x.shape.batch ids a 0 c b := by
  obtain ⟨_, ys, m, hF, _, _, rfl⟩ := pickFw_inv h
  obtain ⟨h8, hpos, hcomp, hids, _, hb, hg, rfl, _, _⟩ := Front.pickFw_plan hx hlen hF
  refine ⟨h8, hpos, hcomp, hids, hb, hg, fun a c b ha hc hb' => ?_⟩
  simp only [at4_eq, comp3_one, pick, share]
  rw [seqWrite_apply (fun _ => rfl), pick_idx ids ha hc]
  · -- the id read for sample `b`, and the sample of `x` it is read from
    have hi : b * b2n (ids.length > 1) = if ids.length = 1 then 0 else b := by
      unfold b2n
      by_cases h1 : ids.length = 1
      · simp [h1]
      · simp [h1, show ids.length > 1 by omega]
    rw [hi]
    unfold comp3
    by_cases h1 : x.shape.batch = 1
    · simp only [h1, if_true]; congr 1; ring
    · simp only [h1, if_false]; congr 1; ring
  · rw [pick_count, Nat.mul_assoc]
    exact lt_mul_of_lt ha (cb_lt hc hb')

example : values (pickFw (α := Int) ⟨⟨[3, 3], 1, 9⟩, fun i => i + 1, .here⟩ [1, 2] 1 (fun _ => 0)) =
    some ([3], 2, [4, 5, 6, 7, 8, 9]) := by decide

/-- `Tensor::argmax(dim)` for any `dim` (no axis is rejected): one position per
`(a, c, b)`, in column-major order, the first one where the maximum is attained. -/
theorem Fwd.argmax_spec {α} [LinearOrder α] {x : Tensor α} {dim : Nat} {l : List Nat} (hx : WF x.shape)
    (h : argmax x dim = .ok l) :
    l.length = lo x.shape dim * (up x.shape dim * x.shape.batch) ∧
    ∀ a c b, a < lo x.shape dim → c < up x.shape dim → b < x.shape.batch →
      IsArgmax (fun k => at4 (lo x.shape dim) (x.shape.get dim) (up x.shape dim) x.data a k c b) (x.shape.get dim)
        (l.getD (a + lo x.shape dim * (c + up x.shape dim * b)) 0) := by
  obtain ⟨hlen, hv⟩ := arg_view hx h
  refine ⟨hlen, fun a c b ha hc hb => ?_⟩
  rw [hv a c b ha hc hb]
  have := (argmaxLoop_spec x.data (fun k => comp3 (lo x.shape dim) (x.shape.get dim) a k (c + up x.shape dim * b))
    (x.shape.get dim - 1)).2
  rwa [Nat.sub_add_cancel (hx.pos dim)] at this

theorem Fwd.argmin_spec {α} [LinearOrder α] {x : Tensor α} {dim : Nat} {l : List Nat} (hx : WF x.shape)
    (h : argmin x dim = .ok l) :
    l.length = lo x.shape dim * (up x.shape dim * x.shape.batch) ∧
    ∀ a c b, a < lo x.shape dim → c < up x.shape dim → b < x.shape.batch →
      IsArgmin (fun k => at4 (lo x.shape dim) (x.shape.get dim) (up x.shape dim) x.data a k c b) (x.shape.get dim)
        (l.getD (a + lo x.shape dim * (c + up x.shape dim * b)) 0) := by
  obtain ⟨hlen, hv⟩ := arg_view hx h
  refine ⟨hlen, fun a c b ha hc hb => ?_⟩
  rw [hv a c b ha hc hb]
  have := (argminLoop_spec x.data (fun k => comp3 (lo x.shape dim) (x.shape.get dim) a k (c + up x.shape dim * b))
    (x.shape.get dim - 1)).2
  rwa [Nat.sub_add_cancel (hx.pos dim)] at this

example : argmax (α := Int) ⟨⟨[3, 2], 1, 6⟩, fun i => [1, 7, 3, 5, 4, 5].getD i 0, .here⟩ 0 = .ok [1, 0] := by decide

/-- `transpose(x)`: matrices only -/
theorem Fwd.transpose_spec {α} {x y : Tensor α} {raw : Nat → α} (hx : WF x.shape) (h : transposeFw x raw = .ok y) :
    x.shape.isMatrix = true ∧ y.shape.batch = x.shape.batch ∧ y.shape.get 0 = x.shape.get 1 ∧
    y.shape.get 1 = x.shape.get 0 ∧ (∀ i, 2 ≤ i → y.shape.get i = 1) ∧
    ∀ i j b, i < x.shape.get 0 → j < x.shape.get 1 → b < x.shape.batch →
      atM (x.shape.get 1) (x.shape.get 0) y.data j i b = transpose (atM (x.shape.get 0) (x.shape.get 1) x.data) j i b := by
  obtain ⟨_, ys, m, hF, _, _, rfl⟩ := fw_inv h
  obtain ⟨hm, _, hb, g0, g1, g2, rfl, _, _⟩ := Front.transposeFw_plan hx hF
  refine ⟨hm, hb, g0, g1, g2, ?_⟩
  intro i j b hi hj hb'
  simp only [atM, transpose]
  rw [← transpose_didx x.shape.batch hi hj, scatterSet_of_once (transpose_writes _ _ _).2]
  · rfl
  · simp only [transposeMoves]
    have := comp3_lt (lo := x.shape.get 0) (n := x.shape.get 1) (hi := x.shape.batch) hi hj hb'
    unfold comp3 at this
    calc _ < x.shape.get 0 * x.shape.get 1 * x.shape.batch := this
      _ = x.shape.batch * (x.shape.get 0 * x.shape.get 1) := by ring

/-- `batch::pick(x, ids)` -/
theorem Fwd.batch_pick_spec {α} {x y : Tensor α} {ids : List Nat} {raw : Nat → α} (hx : WF x.shape)
    (hlen : ids.length < W) (h : batchPickFw x ids raw = .ok y) :
    0 < ids.length ∧ (∀ i ∈ ids, i < x.shape.batch) ∧ y.shape.batch = ids.length ∧ y.shape.dims = x.shape.dims ∧
    ∀ v b, v < x.shape.volume → b < ids.length →
      at2 x.shape.volume y.data v b = batchPick (at2 x.shape.volume x.data) ids v b := by
  obtain ⟨_, ys, m, hF, _, _, rfl⟩ := batchPickFw_inv h
  obtain ⟨hpos, hids, _, hb, hd, rfl, _, _⟩ := Front.batchPickFw_plan hx hlen hF
  refine ⟨hpos, hids, hb, hd, fun v b hv hb' => ?_⟩
  simp only [at2, batchPick]
  rw [seqWrite_apply (m := batchPickMoves ids.length x.shape.volume ids) (fun _ => rfl)]
  · simp only [batchPickMoves]
    rw [Nat.add_mul_mod_self_left, Nat.mod_eq_of_lt hv, Nat.add_mul_div_left _ _ (by omega), Nat.div_eq_of_lt hv,
      Nat.zero_add, Nat.add_comm]
  · simp only [batchPickMoves]
    rw [Nat.mul_comm ids.length]; exact lt_mul_of_lt hv hb'

/-- `batch::slice(x, lower, upper)` -/
theorem Fwd.batch_slice_spec {α} {x y : Tensor α} {lower upper : Nat} {raw : Nat → α} (hx : WF x.shape)
    (h : batchSliceFw x lower upper raw = .ok y) :
    lower < upper ∧ upper ≤ x.shape.batch ∧ y.shape.batch = upper - lower ∧ y.shape.dims = x.shape.dims ∧
    ∀ v b, v < x.shape.volume → b < upper - lower →
      at2 x.shape.volume y.data v b = batchSlice (at2 x.shape.volume x.data) lower v b := by
  obtain ⟨_, ys, m, hF, _, _, rfl⟩ := fw_inv h
  obtain ⟨hl, hu, _, hb, hd, rfl, _, _⟩ := Front.batchSliceFw_plan hx hF
  refine ⟨hl, hu, hb, hd, ?_⟩
  intro v b hv hb'
  simp only [at2, batchSlice]
  rw [seqWrite_apply (fun _ => rfl)]
  · simp only [batchSliceFwMoves]; congr 1; ring
  · simp only [batchSliceFwMoves]; exact lt_mul_of_lt hv hb'

/-- `batch::sum(x)` -/
theorem Fwd.batch_sum_spec {α} [Add α] [Zero α] {x y : Tensor α} (hx : WF x.shape) (h : batchSumFw x = .ok y) :
    y.shape.batch = 1 ∧ y.shape.dims = x.shape.dims ∧
    ∀ v, v < x.shape.volume →
      at2 x.shape.volume y.data v 0 = batchSum (at2 x.shape.volume x.data) x.shape.batch v 0 := by
  obtain ⟨_, h⟩ := guarded_ok (xs := [x]).mp h
  obtain ⟨⟨ys, r⟩, hF, h⟩ := bind_ok.mp h
  obtain ⟨_, _, rfl⟩ := runReduce_inv h
  obtain ⟨_, hb, hd, rfl, _, _⟩ := Front.batchSumFw_plan hx hF
  refine ⟨hb, hd, fun v hv => ?_⟩
  simp only [at2, batchSum, batchSumReduce, Nat.mul_zero, Nat.add_zero]
  rw [sumLoop_eq_sumN]
  congr 1; funext b; congr 1; ring

theorem checkAll_inv {α} {xs : List (Tensor α)} {u : Unit} (h : checkAll xs = .ok u) : ∀ x ∈ xs, x.loc = .here :=
  checkAll_ok.mp h

/-- `batch::concat(xs)` -/
theorem Fwd.batch_concat_spec {α} {xs : List (Tensor α)} {y : Tensor α} {raw : Nat → α}
    (hxs : ∀ x ∈ xs, WF x.shape) (h : batchConcatFw xs raw = .ok y) :
    ∃ x0 rest, xs = x0 :: rest ∧ y.shape.dims = x0.shape.dims ∧
      y.shape.batch = (xs.map (·.shape.batch)).sum ∧ (∀ x ∈ xs, x.shape.volume = x0.shape.volume) ∧
      IsBatchConcat x0.shape.volume (xs.map fun x => ⟨at2 x0.shape.volume x.data, x.shape.batch⟩)
        (at2 x0.shape.volume y.data) := by
  obtain ⟨_, ys, ms, d, hF, hR, rfl⟩ := runMany_inv h
  have hsh := wf_shapes hxs
  obtain ⟨s0, srest, hcons, _, hd, _, hb, _, rfl, hall⟩ := Front.batchConcatFw_plan hsh hF
  cases xs with
  | nil => simp at hcons
  | cons x0 rest =>
  simp only [List.map_cons, List.cons.injEq] at hcons
  obtain ⟨rfl, rfl⟩ := hcons
  refine ⟨x0, rest, rfl, hd, by rw [hb]; simp [Function.comp_def], ?_, ?_⟩
  · intro x hx
    exact (hall x.shape (List.mem_map_of_mem hx)).1
  · intro m hm v b hv hb'
    simp only [List.length_map] at hm
    simp only [List.getElem_map, at2] at hb' ⊢
    set xs := x0 :: rest
    have hlen := Front.batchConcatPlan_length (xs.map (·.shape)) 0
    rw [List.length_map] at hlen
    -- the `q`-th loop nest copies operand `q` to the block that starts where the blocks before it end
    have hget : ∀ q (hq : q < xs.length), (Front.batchConcatPlan (xs.map (·.shape)) 0)[q]'(hlen ▸ hq) =
        batchConcatMoves ((xs.map (·.shape.size)).take q).sum xs[q].shape.size := by
      intro q hq
      rw [Front.batchConcatPlan_get _ _ _ (by simpa using hq)]
      simp [List.map_take, List.map_map, Function.comp_def]
    have hsize : ∀ x ∈ xs, x.shape.size = x0.shape.volume * x.shape.batch :=
      fun x hx => (hall x.shape (List.mem_map_of_mem hx)).2
    have hoff : ((xs.map (·.shape.size)).take m).sum = x0.shape.volume * ((xs.take m).map (·.shape.batch)).sum := by
      have := sizes_sum (xs := (xs.take m).map (·.shape)) (V := x0.shape.volume) fun s hs => by
        obtain ⟨x, hx, rfl⟩ := List.mem_map.mp hs
        exact hsize x (List.mem_of_mem_take hx)
      simpa [List.map_take, List.map_map, Function.comp_def] using this
    have ht : v + x0.shape.volume * b < xs[m].shape.size := by
      rw [hsize _ (List.getElem_mem hm)]; exact lt_mul_of_lt hv hb'
    have key := runMany_value hR (p := m) (hlen ▸ hm) hm (t := v + x0.shape.volume * b) (by rw [hget m hm]; exact ht)
      (by
        intro p' hp' t' hle _ e
        rw [hget m hm, hget p' (hlen ▸ hp')] at e
        simp only [batchConcatMoves] at e
        exact block_unique (xs.map (·.shape.size)) (by simpa using hm) hle (by simpa using ht) e)
    rw [hget m hm] at key
    simp only [batchConcatMoves] at key
    rw [← key, hoff]
    simp only [bstartOf, ← List.map_take, List.map_map, Function.comp_def]
    congr 1; ring

/-- `concat(xs, dim)`; `dim ≥ 8` is rejected; operands with minibatch size 1 are shared -/
theorem Fwd.concat_spec {α} {xs : List (Tensor α)} {y : Tensor α} {dim : Nat} {raw : Nat → α}
    (hxs : ∀ x ∈ xs, WF x.shape) (h : concatFw xs dim raw = .ok y) :
    ∃ x0 rest, xs = x0 :: rest ∧ dim < 8 ∧
      (∀ i, y.shape.get i = if i = dim then (xs.map (·.shape.get dim)).sum else x0.shape.get i) ∧
      (∀ x ∈ xs, (∀ i, i ≠ dim → x.shape.get i = x0.shape.get i) ∧ (x.shape.batch = 1 ∨ x.shape.batch = y.shape.batch)) ∧
      IsConcat (lo y.shape dim) (up y.shape dim) y.shape.batch
        (xs.map fun x => ⟨at4 (lo y.shape dim) (x.shape.get dim) (up y.shape dim) x.data, x.shape.get dim, x.shape.batch⟩)
        (at4 (lo y.shape dim) (y.shape.get dim) (up y.shape dim) y.data) := by
  obtain ⟨_, ys, ms, d, hF, hR, rfl⟩ := runMany_inv h
  have hsh := wf_shapes hxs
  obtain ⟨s0, srest, hcons, h8, hy, hyg, hall, hms⟩ := Front.concatFw_plan hsh hF
  cases xs with
  | nil => simp at hcons
  | cons x0 rest =>
  simp only [List.map_cons, List.cons.injEq] at hcons
  obtain ⟨rfl, rfl⟩ := hcons
  set xs := x0 :: rest with hxsdef
  refine ⟨x0, rest, rfl, h8, ?_, ?_, ?_⟩
  · intro i; rw [hyg i]; simp [List.map_map, Function.comp_def]
  · intro x hx; exact hall x.shape (List.mem_map_of_mem hx)
  · intro m hm a k c b ha hk hc' hb'
    simp only [List.length_map] at hm
    simp only [List.getElem_map] at hk ⊢
    have hlen : ms.length = xs.length := by rw [hms, Front.concatPlan_length]; simp
    obtain ⟨hm', em, hsm, hbm⟩ := Front.concatFw_entry_tensors hsh hF m hm
    have ⟨s1, s2, s3⟩ := concat_step (B := ys.batch) (L := lo ys dim) (N := ys.get dim) (U := up ys dim)
      (s := ((xs.take m).map (·.shape.get dim)).sum) (n := xs[m].shape.get dim) (Bp := xs[m].shape.batch)
      ha hk hc' hb'
    -- the step that moves element `(a, k, c, b)` of operand `m` is the only one, of this operand or a later
    -- one, that writes its destination: a step writing the same element is at the same position along the
    -- axis, and that position lies in the block of operand `m` only
    have key := runMany_value hR hm' hm
      (t := (b * up ys dim + c) * (lo ys dim * xs[m].shape.get dim) + (a + lo ys dim * k)) (by rw [em]; exact s1)
      (by
        intro p' hp' t' hle ht' e
        obtain ⟨_, ep, hsp, _⟩ := Front.concatFw_entry_tensors hsh hF p' (hlen ▸ hp')
        rw [em, ep] at e
        rw [ep] at ht'
        have hkeq := concat_didx_eq hsp hsm ht' s1 e
        obtain ⟨rfl, _⟩ := block_unique (xs.map (·.shape.get dim)) (by simpa using hm) hle
          (by rw [List.getElem_map]; exact (concat_form s1).2.1) (by simpa only [List.map_take] using hkeq.1)
        exact ⟨rfl, hkeq.2 rfl rfl⟩)
    rw [em, s2, s3] at key
    simp only [at4_eq, startOf, ← List.map_take, List.map_map, Function.comp_def, share]
    rw [← key]

/-- `permute_dims(x, perm)`: `perm` must be a permutation of `0 .. |perm|-1` with
`depth ≤ |perm| ≤ 8`; axis `k` of the result is axis `perm[k]` of `x`, and
`y[j] = x[i]` for multi-indices with `j = perm.map i`. -/
theorem Fwd.permute_dims_spec {α} {x y : Tensor α} {perm : List Nat} {raw : Nat → α} (hx : WF x.shape)
    (h : permuteFw x perm raw = .ok y) :
    perm.Nodup ∧ (∀ p ∈ perm, p < perm.length) ∧ x.shape.dims.length ≤ perm.length ∧ perm.length ≤ 8 ∧
    y.shape.batch = x.shape.batch ∧ (∀ k, k < perm.length → y.shape.get k = x.shape.get (perm.getD k 0)) ∧
    IsPermuted ((List.range perm.length).map x.shape.get) perm x.data y.data x.shape.volume x.shape.batch := by
  obtain ⟨_, ys, m, hF, _, _, rfl⟩ := fw_inv h
  obtain ⟨hp, hdep, h8, _, hb, _, hgk, hxv, st, rfl, hJ⟩ := permuteFw_plan hx hF
  have ⟨_, _, _, _, hon⟩ := permuteFw_facts hx hF
  refine ⟨hp.nodup, hp.lt, hdep, h8, hb, hgk, ?_⟩
  intro idx b hv hb'
  set n := perm.length with hn
  set xdims := (List.range n).map x.shape.get with hxd
  have hxl : xdims.length = n := by simp [hxd]
  have hxg : ∀ k, k < n → xdims.getD k 1 = x.shape.get k := fun k hk => by
    rw [hxd, getD_map _ (by simpa using hk) 1 0]; simp [hk]
  obtain ⟨hlen, hval⟩ := (valid_iff xdims idx).mp hv
  have hidx : ∀ k, k < n → idx.getD k 0 < x.shape.get k := by
    intro k hk; have := hval k (by rw [hxl]; exact hk); rwa [hxg k hk] at this
  -- the flat indices of `idx` in `x` and of `perm.map idx` in `y`
  have hfx : flat xdims idx = enc x.shape.get (fun k => idx.getD k 0) n :=
    flat_eq_enc_of hxl (hlen ▸ hxl) hxg fun _ _ => rfl
  have hfy : flat (perm.map fun p => xdims.getD p 1) (perm.map fun p => idx.getD p 0) =
      enc (fun k => x.shape.get (perm.getD k 0)) (fun k => idx.getD (perm.getD k 0) 0) n :=
    flat_eq_enc_of (by simp [hn]) (by simp [hn]) (fun j hj => by rw [getD_map _ hj 1 0]; exact hxg _ (hp.get_lt hj))
      fun k hk => getD_map _ hk 0 0
  have hlt : flat xdims idx < x.shape.volume := by rw [hfx, hxv]; exact enc_lt hidx
  -- step `flat idx + V * b` of the loop nest writes the re-encoding of `flat idx`, which is `flat (perm.map idx)`
  have ht : flat xdims idx + x.shape.volume * b < (permuteFwMoves x.shape.volume x.shape.batch st).count := by
    rw [show (permuteFwMoves x.shape.volume x.shape.batch st).count = x.shape.volume * x.shape.batch from Nat.mul_comm _ _]
    exact View3.lt_mul_of_lt hlt hb'
  have key := scatterSet_of_once hon x.data raw ht
  rw [permuteFw_didx st b hlt, hJ _ hlt, hfx, reenc_enc hp hidx, ← hfy, ← hfx] at key
  exact key

/-- `copy(x)` / `Device::copy_tensor`, also for a tensor of another device -/
theorem Fwd.copy_spec {α} {x y : Tensor α} {raw : Nat → α} (h : copyTensor x raw = .ok y) :
    x.loc ≠ .invalid ∧ y.shape = x.shape ∧ ∀ i, i < x.shape.size → y.data i = x.data i := by
  unfold copyTensor at h
  split at h
  · cases h
  · rename_i hl
    obtain ⟨_, _, rfl⟩ := runSet_inv h
    exact ⟨hl, rfl, fun i hi => seqWrite_apply (m := copyMoves x.shape.size) (fun _ => rfl) _ _ hi⟩

/-- `identity(size)` -/
theorem Fwd.identity_spec {α} {zero one : α} {size : Nat} {y : Tensor α} (h : Move.identity zero one size = .ok y) :
    0 < size ∧ y.shape.batch = 1 ∧ y.shape.get 0 = size ∧ y.shape.get 1 = size ∧
    ∀ i j, i < size → j < size → y.data (i + size * j) = Spec.Move.identity zero one i j := by
  obtain ⟨ys, hF, h⟩ := bind_ok.mp h
  split at h
  · cases h
  cases h
  obtain ⟨h0, hb, g0, g1, _⟩ := Front.identity_plan hF
  refine ⟨h0, hb, g0, g1, fun i j hi hj => ?_⟩
  simp only [Spec.Move.identity]
  by_cases e : i = j
  · -- the diagonal element `i` is written by step `i` and by no later one
    subst e
    rw [if_pos rfl, show i + size * i = (fun t => t * (size + 1)) i by show _ = i * (size + 1); ring,
      scatterSet_at _ _ _ _ _ _ hi]
    intro t' h1 h2 e
    have := Nat.eq_of_mul_eq_mul_right (by omega : 0 < size + 1) (show t' * (size + 1) = i * (size + 1) from e)
    omega
  · -- no step writes off the diagonal
    rw [if_neg e, scatterSet_untouched]
    intro t ht e'
    have e1 : t * (size + 1) = comp3 size 1 t 0 t := by unfold comp3; ring
    have e2 : i + size * j = comp3 size 1 i 0 j := by unfold comp3; ring
    rw [e1, e2] at e'
    have ⟨a, _, c⟩ := comp3_inj ht (by omega) hi (by omega) e'
    omega

/-- creation and refill: `new_tensor_by_constant`; below `new_tensor_by_vector` /
`reset_tensor_by_vector` and `to_vector` -/
theorem Fwd.constant_spec {α} (s : Shape) (k : α) : ∃ y, newConstant s k = .ok y ∧ y.shape = s ∧ ∀ i, y.data i = k :=
  ⟨_, rfl, rfl, fun _ => rfl⟩

theorem Fwd.reset_by_vector_spec {α} {values : List α} {dflt : α} {x y : Tensor α} {raw : Nat → α}
    (h : resetByVector values dflt x raw = .ok y) :
    x.loc = .here ∧ values.length = x.shape.size ∧ y.shape = x.shape ∧
    ∀ i, i < x.shape.size → y.data i = values.getD i dflt := by
  unfold resetByVector at h
  obtain ⟨_, hc, h⟩ := bind_ok.mp h
  have hl := checkDevice_inv hc
  split at h
  · cases h
  · rename_i hlen
    obtain ⟨_, _, rfl⟩ := runSet_inv h
    exact ⟨hl, by omega, rfl, fun i hi => seqWrite_apply (m := copyMoves x.shape.size) (fun _ => rfl) _ _ hi⟩

theorem Fwd.to_vector_spec {α} {x : Tensor α} {l : List α} (h : toVector x = .ok l) :
    x.loc = .here ∧ l.length = x.shape.size ∧ ∀ i, i < x.shape.size → l[i]? = some (x.data i) := by
  obtain ⟨⟨hl, _⟩, h⟩ := guarded_ok (xs := [x]).mp h
  cases h
  exact ⟨hl, by simp, fun i hi => by simp [hi]⟩

/-! The documented examples of basic_functions.h. -/

/-- the 3×3 matrix `1 4 7 / 2 5 8 / 3 6 9` of the documentation -/
def docX : Tensor Int := ⟨⟨[3, 3], 1, 9⟩, fun i => i + 1, .here⟩
def raw0 : Nat → Int := fun _ => 0

example : values (pickFw docX [0, 0, 1] 0 raw0) = some ([1, 3], 3, [1, 4, 7, 1, 4, 7, 2, 5, 8]) := by decide
example : values (sliceFw docX 1 1 3 raw0) = some ([3, 2], 1, [4, 5, 6, 7, 8, 9]) := by decide
example : values (flipFw docX 0 raw0) = some ([3, 3], 1, [3, 2, 1, 6, 5, 4, 9, 8, 7]) := by decide
example : values (flipFw docX 1 raw0) = some ([3, 3], 1, [7, 8, 9, 4, 5, 6, 1, 2, 3]) := by decide
example : values (sumFw docX 0) = some ([1, 3], 1, [6, 15, 24]) := by decide
example : values (maxFw docX 1) = some ([3], 1, [7, 8, 9]) := by decide
example : values (minFw docX 1) = some ([3], 1, [1, 2, 3]) := by decide
example : values (transposeFw docX raw0) = some ([3, 3], 1, [1, 4, 7, 2, 5, 8, 3, 6, 9]) := by decide
example : values (broadcastFw (α := Int) ⟨⟨[3], 1, 3⟩, fun i => i + 1, .here⟩ 1 2 raw0) = some ([3, 2], 1, [1, 2, 3, 1, 2, 3]) := by decide
example : values (concatFw [docX, ⟨⟨[3], 2, 3⟩, fun i => 10 * (i + 1), .here⟩] 1 raw0) =
    some ([3, 4], 2, [1, 2, 3, 4, 5, 6, 7, 8, 9, 10, 20, 30, 1, 2, 3, 4, 5, 6, 7, 8, 9, 40, 50, 60]) := by decide
example : values (permuteFw (α := Int) ⟨⟨[3, 2], 1, 6⟩, fun i => i + 1, .here⟩ [1, 0] raw0) = some ([2, 3], 1, [1, 4, 2, 5, 3, 6]) := by decide
example : values (batchPickFw (α := Int) ⟨⟨[2], 3, 2⟩, fun i => i + 1, .here⟩ [2, 0] raw0) = some ([2], 2, [5, 6, 1, 2]) := by decide
example : values (batchSumFw (α := Int) ⟨⟨[2], 3, 2⟩, fun i => i + 1, .here⟩) = some ([2], 1, [9, 12]) := by decide
example : values (Move.identity (0 : Int) 1 2) = some ([2, 2], 1, [1, 0, 0, 1]) := by decide
-- rejected calls: an axis ≥ 8 where the code rejects it, not where it does not
example : values (sumFw docX 8) = none := by decide
example : values (pickFw docX [0] 8 raw0) = none := by decide
example : values (flipFw docX 8 raw0) = some ([3, 3], 1, [1, 2, 3, 4, 5, 6, 7, 8, 9]) := by decide
example : values (sliceFw docX 4294967295 0 1 raw0) = some ([3, 3], 1, [1, 2, 3, 4, 5, 6, 7, 8, 9]) := by decide
example : argmax docX 9 = .ok [0, 0, 0, 0, 0, 0, 0, 0, 0] := by decide

end Primitiv.C02.Move
