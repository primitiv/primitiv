import Mathlib.Analysis.SpecialFunctions.ExpDeriv
import Mathlib.Analysis.SpecialFunctions.Log.Deriv
import Mathlib.Analysis.SpecialFunctions.Sqrt
import Mathlib.Analysis.SpecialFunctions.Pow.Deriv
import Mathlib.Analysis.SpecialFunctions.Trigonometric.Deriv
import Mathlib.Analysis.SpecialFunctions.Trigonometric.DerivHyp
import Mathlib.Analysis.SpecialFunctions.Trigonometric.ArctanDeriv
import Mathlib.Analysis.Calculus.Deriv.Abs
import Mathlib.Analysis.Calculus.Deriv.ZPow
import PrimitivModel.Gen.Elementwise
/-
The scalar functions of the elementwise kernels over ℝ and their derivatives
(DESIGN C01/T3).  `realFns` is the interpretation of the abstract interface
`Fns` of the generated formulas over ℝ; every lemma `hasDerivAt_*` says that the
expression a backward formula multiplies `gy` with is the derivative of the
forward function on its smooth domain.  The lemmas are written from calculus:
nothing here mentions a backward kernel.
-/
namespace Primitiv.Analysis
open Real Primitiv.Gen.Elementwise

/-- the library's sigmoid: `.5 + .5 * tanh(.5 * x)` -/
noncomputable def sigmoidT (x : ℝ) : ℝ := 1 / 2 + 1 / 2 * Real.tanh (1 / 2 * x)

noncomputable def softplus (x : ℝ) : ℝ := Real.log (1 + Real.exp x)

/-- `Eigen::sign` / `(x > 0) - (x < 0)` -/
noncomputable def sgn (x : ℝ) : ℝ := if 0 < x then 1 else if x < 0 then -1 else 0

/-- interpretation of the scalar interface over ℝ (`pow` is `Real.rpow`: it agrees with
`std::pow` for a positive base, the domain on which the pow kernels are differentiated) -/
noncomputable def realFns : Fns ℝ where
  lit m e := (m : ℝ) / (10 : ℝ) ^ e
  exp := Real.exp
  log := Real.log
  tanh := Real.tanh
  sqrt := Real.sqrt
  sin := Real.sin
  cos := Real.cos
  tan := Real.tan
  abs x := |x|
  sign := sgn
  pow a b := a ^ b
  unsupported _ := 0

@[simp] theorem lit_zero : realFns.lit 0 0 = 0 := by simp [realFns]
@[simp] theorem lit_one : realFns.lit 1 0 = 1 := by simp [realFns]
@[simp] theorem lit_half : realFns.lit 5 1 = 1 / 2 := by norm_num [realFns]
@[simp] theorem fns_exp : realFns.exp = Real.exp := rfl
@[simp] theorem fns_log : realFns.log = Real.log := rfl
@[simp] theorem fns_tanh : realFns.tanh = Real.tanh := rfl
@[simp] theorem fns_sqrt : realFns.sqrt = Real.sqrt := rfl
@[simp] theorem fns_sin : realFns.sin = Real.sin := rfl
@[simp] theorem fns_cos : realFns.cos = Real.cos := rfl
@[simp] theorem fns_tan : realFns.tan = Real.tan := rfl
@[simp] theorem fns_abs (x : ℝ) : realFns.abs x = |x| := rfl
@[simp] theorem fns_sign : realFns.sign = sgn := rfl
@[simp] theorem fns_pow (a b : ℝ) : realFns.pow a b = a ^ b := rfl

theorem hasDerivAt_tanh (x : ℝ) : HasDerivAt Real.tanh (1 - Real.tanh x ^ 2) x := by
  have hc : Real.cosh x ≠ 0 := (Real.cosh_pos x).ne'
  rw [show Real.tanh = fun y => Real.sinh y / Real.cosh y from funext Real.tanh_eq_sinh_div_cosh]
  refine ((Real.hasDerivAt_sinh x).div (Real.hasDerivAt_cosh x) hc).congr_deriv ?_
  rw [div_pow, sub_div, ← pow_two, ← pow_two, div_self (pow_ne_zero 2 hc)]

theorem hasDerivAt_sigmoidT (x : ℝ) : HasDerivAt sigmoidT (sigmoidT x * (1 - sigmoidT x)) x := by
  have h := (((hasDerivAt_tanh (1 / 2 * x)).comp x (hasDerivAt_const_mul (1 / 2 : ℝ))).const_mul
    (1 / 2 : ℝ)).const_add (1 / 2 : ℝ)
  refine h.congr_deriv ?_
  unfold sigmoidT
  ring

theorem tanh_half (x : ℝ) : Real.tanh (1 / 2 * x) = (Real.exp x - 1) / (Real.exp x + 1) := by
  have hu : Real.exp (1 / 2 * x) ≠ 0 := (Real.exp_pos _).ne'
  have hx : Real.exp x = Real.exp (1 / 2 * x) * Real.exp (1 / 2 * x) := by
    rw [← Real.exp_add]; congr 1; ring
  rw [Real.tanh_eq, Real.exp_neg, hx, ← mul_div_mul_right _ (Real.exp (1 / 2 * x) + _) hu, sub_mul, add_mul,
    inv_mul_cancel₀ hu]

theorem sigmoidT_eq (x : ℝ) : sigmoidT x = Real.exp x / (1 + Real.exp x) := by
  have h1 : Real.exp x + 1 ≠ 0 := by positivity
  have h2 : 1 + Real.exp x ≠ 0 := by positivity
  unfold sigmoidT
  rw [tanh_half]
  field_simp
  ring

theorem sigmoidT_eq_inv (x : ℝ) : sigmoidT x = 1 / (1 + Real.exp (-x)) := by
  have h : 0 < Real.exp x := Real.exp_pos x
  rw [sigmoidT_eq, Real.exp_neg]
  field_simp
  ring

theorem hasDerivAt_softplus (x : ℝ) : HasDerivAt softplus (sigmoidT x) x := by
  have hpos : 1 + Real.exp x ≠ 0 := by positivity
  rw [sigmoidT_eq]
  exact ((Real.hasDerivAt_exp x).const_add 1).log hpos

/-- the branch the kernels take for `x > 0` -/
theorem softplus_pos_branch (x : ℝ) : x + Real.log (1 + Real.exp (-x)) = softplus x := by
  unfold softplus
  have hx : 0 < Real.exp x := Real.exp_pos x
  have h1 : (1 + Real.exp (-x)) = (1 + Real.exp x) / Real.exp x := by
    rw [Real.exp_neg]; field_simp; ring
  rw [h1, Real.log_div (by positivity) hx.ne', Real.log_exp]
  ring

/- log, sqrt, tan in the form of the kernels; exp, sin, cos need no lemma: `Real.hasDerivAt_exp/sin/cos`
have that form already. -/

theorem hasDerivAt_log' {x : ℝ} (hx : x ≠ 0) : HasDerivAt Real.log (1 / x) x := by
  simpa using Real.hasDerivAt_log hx

theorem hasDerivAt_sqrt' {x : ℝ} (hx : 0 < x) : HasDerivAt Real.sqrt (1 / 2 / Real.sqrt x) x := by
  refine (Real.hasDerivAt_sqrt hx.ne').congr_deriv ?_
  have : Real.sqrt x ≠ 0 := (Real.sqrt_pos.mpr hx).ne'
  field_simp

theorem hasDerivAt_tan' {x : ℝ} (hx : Real.cos x ≠ 0) : HasDerivAt Real.tan (1 + Real.tan x ^ 2) x := by
  refine (Real.hasDerivAt_tan hx).congr_deriv ?_
  rw [← Real.inv_one_add_tan_sq hx, one_div, inv_inv]

theorem hasDerivAt_rpow_const' {x : ℝ} (k : ℝ) (hx : 0 < x) :
    HasDerivAt (fun x => x ^ k) (k * x ^ k / x) x := by
  refine (Real.hasDerivAt_rpow_const (Or.inl hx.ne')).congr_deriv ?_
  rw [Real.rpow_sub_one hx.ne']
  ring

theorem hasDerivAt_const_rpow' {k : ℝ} (hk : 0 < k) (x : ℝ) :
    HasDerivAt (fun x => k ^ x) (Real.log k * k ^ x) x := by
  refine (Real.hasStrictDerivAt_const_rpow hk x).hasDerivAt.congr_deriv ?_
  ring

theorem hasDerivAt_const_div {x : ℝ} (k : ℝ) (hx : x ≠ 0) :
    HasDerivAt (fun x => k / x) (-(k / x) / x) x := by
  refine ((hasDerivAt_const x k).div (hasDerivAt_id x) hx).congr_deriv ?_
  simp only [id, zero_mul, zero_sub, mul_one, neg_div, div_div, pow_two]

theorem hasDerivAt_div_const' (x k : ℝ) : HasDerivAt (fun x => x / k) (1 / k) x := by
  simpa using (hasDerivAt_id x).div_const k

theorem hasDerivAt_zpow' {x : ℝ} (n : ℤ) (hx : x ≠ 0) :
    HasDerivAt (fun x => x ^ n) ((n : ℝ) * x ^ n / x) x := by
  refine (hasDerivAt_zpow n x (Or.inl hx)).congr_deriv ?_
  rw [zpow_sub_one₀ hx, div_eq_mul_inv, mul_assoc]

/-- At every x, zero included.  Not used by a proof: it is the calculus fact that the rule of pown_bw
fails to match at 0 (Props/C01/Arith.lean `pown_bw_zero_witness`, which shows it for n = 1 from
`hasDerivAt_id`). -/
theorem hasDerivAt_npow (n : ℕ) (x : ℝ) : HasDerivAt (fun x => x ^ n) ((n : ℝ) * x ^ (n - 1)) x := by
  simpa using hasDerivAt_pow n x

theorem hasDerivAt_abs' {x : ℝ} (hx : x ≠ 0) : HasDerivAt (fun x => |x|) (sgn x) x := by
  unfold sgn
  rcases hx.lt_or_gt with h | h
  · have : ¬ (0 < x) := not_lt.mpr h.le
    simpa [this, h] using hasDerivAt_abs_neg h
  · simpa [h] using hasDerivAt_abs_pos h

/-- the `select` form of prelu and elu -/
theorem hasDerivAt_select {g : ℝ → ℝ} {g' x : ℝ} (hx : x ≠ 0) (hg : HasDerivAt g g' x) :
    HasDerivAt (fun y => if y > 0 then y else g y) (if x > 0 then 1 else g') x := by
  rcases hx.lt_or_gt with h | h
  · rw [if_neg h.not_gt]
    exact hg.congr_of_eventuallyEq ((eventually_lt_nhds h).mono fun y hy => if_neg hy.not_gt)
  · rw [if_pos h]
    exact (hasDerivAt_id x).congr_of_eventuallyEq ((eventually_gt_nhds h).mono fun y hy => if_pos hy)

noncomputable def prelu (k x : ℝ) : ℝ := if x > 0 then x else k * x

theorem hasDerivAt_prelu {x : ℝ} (k : ℝ) (hx : x ≠ 0) :
    HasDerivAt (prelu k) (if x > 0 then 1 else k) x :=
  hasDerivAt_select hx (hasDerivAt_const_mul k)

noncomputable def elu (k x : ℝ) : ℝ := if x > 0 then x else k * (Real.exp x - 1)

theorem hasDerivAt_elu {x : ℝ} (k : ℝ) (hx : x ≠ 0) :
    HasDerivAt (elu k) (if x > 0 then 1 else elu k x + k) x := by
  have h := hasDerivAt_select hx (((Real.hasDerivAt_exp x).sub_const 1).const_mul k)
  refine h.congr_deriv (ite_congr rfl (fun _ => rfl) fun hn => ?_)
  rw [elu, if_neg hn]
  ring

/- The partial derivatives of `a / b` and `a ^ b`: the lemmas above with the variable named as in the
binary kernels.  `Binary.divide_adjoint` and `Binary.pow_adjoint` (Props/C01/Arith.lean) have these
derivative expressions as the coefficients of their jvp, written out; no theorem connects the two. -/

theorem hasDerivAt_div_left (a b : ℝ) : HasDerivAt (fun a => a / b) (1 / b) a :=
  hasDerivAt_div_const' a b

theorem hasDerivAt_div_right {b : ℝ} (a : ℝ) (hb : b ≠ 0) : HasDerivAt (fun b => a / b) (-(a / b) / b) b :=
  hasDerivAt_const_div a hb

theorem hasDerivAt_rpow_left {a : ℝ} (b : ℝ) (ha : 0 < a) : HasDerivAt (fun a => a ^ b) (b * a ^ b / a) a :=
  hasDerivAt_rpow_const' b ha

theorem hasDerivAt_rpow_right {a : ℝ} (ha : 0 < a) (b : ℝ) : HasDerivAt (fun b => a ^ b) (Real.log a * a ^ b) b :=
  hasDerivAt_const_rpow' ha b

end Primitiv.Analysis
